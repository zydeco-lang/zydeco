/-
C08 — the release invariant of `SccGraph` (`ZV/Model/Graph.lean`).

`Scc.Inv deps b gone g` says what each of the five tables of `g` contains, as a function of the
labelling `b` the graph was built from and the list `gone` of ids released so far. `Scc.new`
establishes it with nothing released (its tables are `AMap.addAll`s over the condensation edges),
`releaseOne` of an unreleased id whose component has no unreleased dependency preserves it, and the
last section says what `top` offers under it; nothing else about the tables is used elsewhere.
-/
import ZV.Proofs.GraphBasics

namespace ZV.Graph

def IsComp (b : List (Nat × Nat)) (c : Nat) : Prop := ∃ u, lookup b u = some c

/-- Edge of the condensation: some member of `c` depends on some member of `d ≠ c`. -/
def CEdge (deps : AMap) (b : List (Nat × Nat)) (c d : Nat) : Prop :=
  c ≠ d ∧ ∃ u v, lookup b u = some c ∧ lookup b v = some d ∧ Edge deps u v

theorem CEdge.isComp_right {deps : AMap} {b : List (Nat × Nat)} {c d : Nat} (h : CEdge deps b c d) :
    IsComp b d := by
  obtain ⟨_, _, v, _, hv, _⟩ := h
  exact ⟨v, hv⟩

theorem CEdge.isComp_left {deps : AMap} {b : List (Nat × Nat)} {c d : Nat} (h : CEdge deps b c d) :
    IsComp b c := by
  obtain ⟨_, u, _, hu, _, _⟩ := h
  exact ⟨u, hu⟩

/-- An entry for every `k ∈ ks`, and `x` in the entry of `k` for every `(k, x) ∈ es`: the form of
all three tables that `Scc.new` builds. -/
def edgeTable (ks : List Nat) (es : List (Nat × Nat)) : AMap :=
  AMap.addAll [] (ks.map (·, []) ++ es.map fun e => (e.1, [e.2]))

theorem mem_query_edgeTable {ks : List Nat} {es : List (Nat × Nat)} {k x : Nat} :
    x ∈ (edgeTable ks es).query k ↔ (k, x) ∈ es := by
  rw [edgeTable, AMap.mem_query_addAll]
  simp only [List.mem_append, List.mem_map]
  constructor
  · rintro (⟨⟨⟩⟩ | ⟨_, ⟨_, _, ⟨⟩⟩ | ⟨e, he, ⟨⟩⟩, hx⟩)
    · cases hx
    · rwa [List.mem_singleton.mp hx]
  · exact fun h => Or.inr ⟨_, Or.inr ⟨_, h, rfl⟩, List.mem_singleton_self _⟩

theorem isSome_edgeTable {ks : List Nat} {es : List (Nat × Nat)} {k : Nat} :
    ((edgeTable ks es).get? k).isSome = true ↔ (k ∈ ks ∨ ∃ x, (k, x) ∈ es) := by
  rw [edgeTable, AMap.isSome_get?_addAll]
  simp [AMap.get?_nil]

def newStrongsStep (b : List (Nat × Nat)) (s : AMap) (id : Nat) : AMap :=
  match lookup b id with
  | some low => s.add low [id]
  | none => s

def newStrongs (σ : Sched) (b : List (Nat × Nat)) : AMap :=
  (σ (b.map (·.1))).foldl (newStrongsStep b) []

theorem newStrongs_eq (σ : Sched) (b : List (Nat × Nat)) :
    newStrongs σ b = edgeTable [] ((σ (b.map (·.1))).filterMap fun id => (lookup b id).map (·, id)) := by
  unfold newStrongs edgeTable AMap.addAll
  rw [List.map_nil, List.nil_append, List.foldl_map, List.foldl_filterMap]
  congr
  funext s id
  unfold newStrongsStep
  cases lookup b id <;> rfl

theorem mem_newMembers {σ : Sched} (hσ : σ.Valid) {b : List (Nat × Nat)} {c u : Nat} :
    (c, u) ∈ (σ (b.map (·.1))).filterMap (fun id => (lookup b id).map (·, id)) ↔ lookup b u = some c := by
  simp only [List.mem_filterMap, Option.map_eq_some_iff, hσ.mem_iff, Prod.mk.injEq]
  constructor
  · rintro ⟨_, _, _, h, rfl, rfl⟩
    exact h
  · exact fun h => ⟨u, lookup_isSome.mp (Option.isSome_of_eq_some h), c, h, rfl, rfl⟩

theorem newStrongs_query {σ : Sched} (hσ : σ.Valid) (b : List (Nat × Nat)) (c u : Nat) :
    u ∈ (newStrongs σ b).query c ↔ lookup b u = some c := by
  rw [newStrongs_eq, mem_query_edgeTable, mem_newMembers hσ]

theorem newStrongs_isSome {σ : Sched} (hσ : σ.Valid) (b : List (Nat × Nat)) (c : Nat) :
    ((newStrongs σ b).get? c).isSome = true ↔ IsComp b c := by
  rw [newStrongs_eq, isSome_edgeTable]
  simp only [mem_newMembers hσ, List.not_mem_nil, false_or]
  rfl

theorem newStrongs_wf (σ : Sched) (b : List (Nat × Nat)) : WfGraph (newStrongs σ b) := by
  rw [newStrongs_eq]
  exact AMap.wf_addAll wf_nil _

theorem newStrongs_keys_nodup (σ : Sched) (b : List (Nat × Nat)) :
    (newStrongs σ b).keys.Nodup :=
  (newStrongs_wf σ b).1

/-- The condensation edges, in the order in which `Scc.new` meets them. -/
def newEdgeList (σ : Sched) (idDeps : AMap) (b : List (Nat × Nat)) : List (Nat × Nat) :=
  (σ (newStrongs σ b).keys).flatMap fun k => (σ ((newStrongs σ b).query k)).flatMap fun id =>
    (σ (idDeps.query id)).filterMap fun d => (lookup b d).bind fun r => if r != k then some (k, r) else none

theorem mem_newEdgeList {σ : Sched} (hσ : σ.Valid) (idDeps : AMap) (b : List (Nat × Nat)) (c d : Nat) :
    (c, d) ∈ newEdgeList σ idDeps b ↔ CEdge idDeps b c d := by
  simp only [newEdgeList, List.mem_flatMap, List.mem_filterMap, hσ.mem_iff, AMap.mem_keys,
    newStrongs_query hσ, newStrongs_isSome hσ, Option.bind_eq_some_iff,
    Option.ite_none_right_eq_some, Option.some.injEq, Prod.mk.injEq, bne_iff_ne]
  constructor
  · rintro ⟨_, _, u, hu, v, hv, _, hl, hne, rfl, rfl⟩
    exact ⟨Ne.symm hne, u, v, hu, hl, hv⟩
  · rintro ⟨hne, u, v, hu, hv, he⟩
    exact ⟨c, ⟨u, hu⟩, u, hu, v, he, d, hv, Ne.symm hne, rfl, rfl⟩

theorem mem_map_swap {es : List (Nat × Nat)} {c d : Nat} : (d, c) ∈ es.map Prod.swap ↔ (c, d) ∈ es :=
  ⟨fun h => by simpa using List.mem_map_of_mem (f := Prod.swap) h, List.mem_map_of_mem (f := Prod.swap)⟩

theorem Scc.new_eq {σ : Sched} (hσ : σ.Valid) (idDeps : AMap) (b : List (Nat × Nat))
    (hlab : ∀ u v c, lookup b u = some c → v ∈ idDeps.query u → (lookup b v).isSome = true) :
    Scc.new σ idDeps b = .ok
      { strongs := newStrongs σ b, belongs := b,
        srcs := edgeTable (σ (newStrongs σ b).keys) ((newEdgeList σ idDeps b).map Prod.swap),
        deps := edgeTable (σ (newStrongs σ b).keys) (newEdgeList σ idDeps b),
        roots := srcRoots σ
          (edgeTable (σ (newStrongs σ b).keys) ((newEdgeList σ idDeps b).map Prod.swap)) } := by
  unfold Scc.new
  dsimp only
  -- the three nested loops, all of whose steps succeed, are one pure loop over the edge list
  rw [show List.foldlM (m := Except String) _ _ (σ _) = .ok ((newEdgeList σ idDeps b).foldl
    (fun acc e => (acc.1.add e.2 [e.1], acc.2.add e.1 [e.2])) _) from ?loops]
  case loops =>
    unfold newEdgeList
    rw [List.foldl_flatMap]
    refine foldlM_eq_ok' fun acc k _ => ?_
    rw [List.foldl_flatMap]
    refine foldlM_eq_ok' fun acc id hid => ?_
    rw [List.foldl_filterMap]
    refine foldlM_eq_ok' fun acc d hd => ?_
    rw [hσ.mem_iff] at hid hd
    obtain ⟨r, hr⟩ := Option.isSome_iff_exists.mp (hlab id d k ((newStrongs_query hσ b k id).mp hid) hd)
    simp only [hr, Option.bind_some]
    split <;> rfl
  rw [AMap.foldl_add_pair (fun c => (c, [])) (fun c => (c, [])),
    AMap.foldl_add_pair (fun e : Nat × Nat => (e.2, [e.1])) (fun e => (e.1, [e.2])),
    ← AMap.addAll_append, ← AMap.addAll_append]
  unfold edgeTable
  rw [List.map_map]
  rfl

theorem mem_srcRoots {σ : Sched} (hσ : σ.Valid) (srcs : AMap) (x : Nat) :
    x ∈ srcRoots σ srcs ↔ (x ∈ srcs.keys ∧ ∀ k, x ∉ srcs.query k) := by
  unfold srcRoots
  rw [← List.foldl_flatMap, IdSet.mem_foldl_remove]
  refine and_congr_right fun _ => ⟨fun h k hk => h (List.mem_flatMap.mpr
    ⟨k, hσ.mem_iff.mpr (Edge.mem_keys hk), hσ.mem_iff.mpr hk⟩), fun h hx => ?_⟩
  obtain ⟨k, _, hk⟩ := List.mem_flatMap.mp hx
  exact h k (hσ.mem_iff.mp hk)

theorem nodup_srcRoots (σ : Sched) (srcs : AMap) (h : srcs.keys.Nodup) : (srcRoots σ srcs).Nodup := by
  unfold srcRoots
  rw [← List.foldl_flatMap]
  exact IdSet.nodup_foldl_remove h

def Alive (b : List (Nat × Nat)) (gone : List Nat) (d : Nat) : Prop :=
  ∃ v, lookup b v = some d ∧ v ∉ gone

theorem not_alive_iff {b : List (Nat × Nat)} {gone : List Nat} {d : Nat} :
    ¬ Alive b gone d ↔ ∀ v, lookup b v = some d → v ∈ gone := by
  simp only [Alive, not_exists, not_and, Classical.not_not]

theorem Alive.isComp {b : List (Nat × Nat)} {gone : List Nat} {d : Nat} (h : Alive b gone d) :
    IsComp b d := by
  obtain ⟨v, hv, _⟩ := h
  exact ⟨v, hv⟩

def DepsGone (deps : AMap) (b : List (Nat × Nat)) (gone : List Nat) (c : Nat) : Prop :=
  ∀ d, CEdge deps b c d → ¬ Alive b gone d

theorem DepsGone.mono {deps : AMap} {b : List (Nat × Nat)} {gone gone' : List Nat} {c : Nat}
    (hsub : ∀ x, x ∈ gone → x ∈ gone') (h : DepsGone deps b gone c) : DepsGone deps b gone' c :=
  fun d hd ⟨v, hv, hn⟩ => h d hd ⟨v, hv, fun hg => hn (hsub v hg)⟩

/-- What the tables of `g` contain once the ids in `gone` have been released. A row of `srcs` keeps
dependents whatever has become of them; by `closed`, an id goes only after all that its component
depends on, so the dependents of a component that is still alive are intact. -/
structure Scc.Inv (deps : AMap) (b : List (Nat × Nat)) (gone : List Nat) (g : Scc) : Prop where
  gone_nodup : gone.Nodup
  gone_sub : ∀ u, u ∈ gone → (lookup b u).isSome = true
  belongs : ∀ u, lookup g.belongs u = if u ∈ gone then none else lookup b u
  strongs_query : ∀ c u, u ∈ g.strongs.query c ↔ (lookup b u = some c ∧ u ∉ gone)
  strongs_isSome : ∀ c, (g.strongs.get? c).isSome = true ↔ Alive b gone c
  strongs_nodup : ∀ c s, g.strongs.get? c = some s → s.Nodup
  deps_isSome : ∀ c, IsComp b c → (g.deps.get? c).isSome = true
  deps_query : ∀ c d, d ∈ g.deps.query c ↔ (CEdge deps b c d ∧ Alive b gone d)
  srcs_isSome : ∀ d, Alive b gone d → (g.srcs.get? d).isSome = true
  srcs_query : ∀ c d, Alive b gone d → (c ∈ g.srcs.query d ↔ CEdge deps b c d)
  roots_nodup : g.roots.Nodup
  roots : ∀ c, c ∈ g.roots ↔ (Alive b gone c ∧ ∀ d, CEdge deps b c d → ¬ Alive b gone d)
  closed : ∀ u c, u ∈ gone → lookup b u = some c → ∀ d, CEdge deps b c d → ¬ Alive b gone d

theorem Scc.new_spec {σ : Sched} (hσ : σ.Valid) (deps : AMap) (b : List (Nat × Nat))
    (hlab : ∀ u v c, lookup b u = some c → v ∈ deps.query u → (lookup b v).isSome = true) :
    ∃ g, Scc.new σ deps b = .ok g ∧ Scc.Inv deps b [] g := by
  refine ⟨_, Scc.new_eq hσ deps b hlab, ?_⟩
  have halive : ∀ c, Alive b [] c ↔ IsComp b c := fun c => by simp [Alive, IsComp]
  have hks : ∀ c, c ∈ σ (newStrongs σ b).keys ↔ IsComp b c := fun c => by
    rw [hσ.mem_iff, AMap.mem_keys, newStrongs_isSome hσ]
  have hsq : ∀ c d, c ∈ (edgeTable (σ (newStrongs σ b).keys)
      ((newEdgeList σ deps b).map Prod.swap)).query d ↔ CEdge deps b c d := fun c d => by
    rw [mem_query_edgeTable, mem_map_swap, mem_newEdgeList hσ]
  have hsk : ∀ d, ((edgeTable (σ (newStrongs σ b).keys)
      ((newEdgeList σ deps b).map Prod.swap)).get? d).isSome = true ↔ IsComp b d := fun d => by
    rw [isSome_edgeTable, hks]
    exact or_iff_left_of_imp fun ⟨c, h⟩ =>
      ((mem_newEdgeList hσ ..).mp (mem_map_swap.mp h)).isComp_right
  exact {
    gone_nodup := List.nodup_nil
    gone_sub := fun u hu => by cases hu
    belongs := fun u => by simp
    strongs_query := fun c u => by simpa using newStrongs_query hσ b c u
    strongs_isSome := fun c => (newStrongs_isSome hσ b c).trans (halive c).symm
    strongs_nodup := fun c s h => (newStrongs_wf σ b).2 c s (AMap.get?_mem h)
    deps_isSome := fun c hc => isSome_edgeTable.mpr (Or.inl ((hks c).mpr hc))
    deps_query := fun c d => by
      rw [mem_query_edgeTable, mem_newEdgeList hσ, halive]
      exact iff_self_and.mpr fun h => h.isComp_right
    srcs_isSome := fun d hd => (hsk d).mpr ((halive d).mp hd)
    srcs_query := fun c d _ => hsq c d
    roots_nodup := nodup_srcRoots σ _ (AMap.wf_addAll wf_nil _).1
    roots := fun c => by
      rw [mem_srcRoots hσ, AMap.mem_keys, hsk, halive]
      exact and_congr_right fun _ => ⟨fun h d hd _ => h d ((hsq c d).mpr hd),
        fun h d hd => h d ((hsq c d).mp hd) ((halive d).mpr ((hsq c d).mp hd).isComp_right)⟩
    closed := fun u c hu => by cases hu }

/-- `deps.map.get_mut(n).unwrap().remove(c)` -/
def relDepsStep (c : Nat) (d : AMap) (n : Nat) : AMap := d.mapAt n (IdSet.remove · c)

theorem relDeps_fold_isSome (c : Nat) (l : List Nat) (d : AMap) (k : Nat) :
    ((l.foldl (relDepsStep c) d).get? k).isSome = (d.get? k).isSome :=
  List.foldlRecOn (motive := fun (d' : AMap) => (d'.get? k).isSome = (d.get? k).isSome) _ _ rfl
    fun _ h _ _ => (AMap.isSome_get?_mapAt ..).trans h

theorem relDeps_fold_query (c : Nat) (l : List Nat) (d : AMap) (k x : Nat) :
    x ∈ (l.foldl (relDepsStep c) d).query k ↔ (x ∈ d.query k ∧ (k ∈ l → x ≠ c)) := by
  induction l generalizing d with
  | nil => simp
  | cons a l ih =>
    have : x ∈ (relDepsStep c d a).query k ↔ (x ∈ d.query k ∧ (k = a → x ≠ c)) := by
      simp only [AMap.query, relDepsStep, AMap.get?_mapAt]
      by_cases hk : k = a <;> cases d.get? k <;> simp [hk, IdSet.mem_remove]
    rw [List.foldl_cons, ih, this, List.mem_cons, and_assoc, or_imp]

theorem lookup_ne_of_comp_ne {b : List (Nat × Nat)} {u v c d : Nat}
    (hu : lookup b u = some c) (hv : lookup b v = some d) (hne : c ≠ d) : u ≠ v := by
  rintro rfl
  exact hne (Option.some.inj (hu.symm.trans hv))

/-- Kahn's step. `A` are the remaining nodes of a graph `E`; `c` leaves; its dependents remain and
are other than `c`. Then the nodes that remain and have no remaining dependency are the former such
nodes other than `c`, and the dependents of `c` that have none now. -/
theorem kahn_step {A A' : Nat → Prop} {E : Nat → Nat → Prop} {c : Nat}
    (hA' : ∀ d, A' d ↔ (A d ∧ d ≠ c)) (hup : ∀ x, E x c → A x ∧ x ≠ c) (x : Nat) :
    (((A x ∧ ∀ d, E x d → ¬ A d) ∧ x ≠ c) ∨ (E x c ∧ ∀ d, E x d → ¬ A' d)) ↔
      (A' x ∧ ∀ d, E x d → ¬ A' d) := by
  constructor
  · rintro (⟨⟨h1, h2⟩, h3⟩ | ⟨h1, h2⟩)
    · exact ⟨(hA' x).mpr ⟨h1, h3⟩, fun d hd ha => h2 d hd ((hA' d).mp ha).1⟩
    · exact ⟨(hA' x).mpr (hup x h1), h2⟩
  · rintro ⟨h1, h2⟩
    rw [hA'] at h1
    by_cases hxc : E x c
    · exact Or.inr ⟨hxc, h2⟩
    · refine Or.inl ⟨⟨h1.1, fun d hd ha => h2 d hd ((hA' d).mpr ⟨ha, ?_⟩)⟩, h1.2⟩
      rintro rfl
      exact hxc hd

section release
variable {deps : AMap} {b : List (Nat × Nat)} {gone : List Nat} {g : Scc} (hinv : Scc.Inv deps b gone g)
  {id c : Nat} {s : IdSet} (hid : lookup b id = some c) (hng : id ∉ gone)
  (hs : g.strongs.get? c = some s)
include hinv hs

theorem Scc.Inv.mem_remove_strongs (u : Nat) :
    u ∈ IdSet.remove s id ↔ (lookup b u = some c ∧ u ∉ id :: gone) := by
  rw [IdSet.mem_remove, ← AMap.query_eq_of_get? hs, hinv.strongs_query, List.mem_cons, not_or,
    and_assoc, and_comm (a := u ∉ gone)]

include hid

theorem Scc.Inv.alive_cons (d : Nat) :
    Alive b (id :: gone) d ↔ (Alive b gone d ∧ (d = c → IdSet.remove s id ≠ [])) := by
  have hsq := hinv.mem_remove_strongs (id := id) hs
  constructor
  · rintro ⟨v, hv, hvn⟩
    exact ⟨⟨v, hv, fun h => hvn (List.mem_cons_of_mem _ h)⟩,
      fun hdc => List.ne_nil_of_mem ((hsq v).mpr ⟨hdc ▸ hv, hvn⟩)⟩
  · rintro ⟨⟨v, hv, hvn⟩, hd⟩
    by_cases hdc : d = c
    · obtain ⟨a, ha⟩ := List.exists_mem_of_ne_nil _ (hd hdc)
      exact ⟨a, hdc ▸ (hsq a).mp ha⟩
    · exact ⟨v, hv, List.not_mem_cons_of_ne_of_not_mem (lookup_ne_of_comp_ne hv hid hdc) hvn⟩

/-- The rows of `strongs` once `id` is released, whether the key `c` stays or goes. -/
theorem Scc.Inv.strongs_query_cons {m' : AMap}
    (hq : ∀ c', m'.query c' = if c' = c then IdSet.remove s id else g.strongs.query c') (c' u : Nat) :
    u ∈ m'.query c' ↔ (lookup b u = some c' ∧ u ∉ id :: gone) := by
  rw [hq]
  split
  · next hc =>
    rw [hc]
    exact hinv.mem_remove_strongs hs u
  · next hc =>
    rw [hinv.strongs_query, List.mem_cons, not_or]
    exact and_congr_right fun h => (and_iff_right (lookup_ne_of_comp_ne h hid hc)).symm

include hng

omit hs in
/-- The fields of the invariant that do not mention `strongs`, `srcs`, `deps`, `roots`. -/
theorem Scc.Inv.release_common (hroot : DepsGone deps b gone c) :
    (id :: gone).Nodup ∧ (∀ u, u ∈ id :: gone → (lookup b u).isSome = true) ∧
    (∀ u, lookup (g.belongs.filter (·.1 != id)) u = if u ∈ id :: gone then none else lookup b u) ∧
    ∀ u c', u ∈ id :: gone → lookup b u = some c' → DepsGone deps b (id :: gone) c' := by
  refine ⟨List.nodup_cons.mpr ⟨hng, hinv.gone_nodup⟩, ?_, ?_, ?_⟩
  · intro u hu
    rcases List.mem_cons.mp hu with rfl | hu
    · exact Option.isSome_of_eq_some hid
    · exact hinv.gone_sub u hu
  · intro u
    rw [lookup_filter_ne, hinv.belongs]
    by_cases hu : u = id <;> simp [hu]
  · intro u c' hu hc'
    refine DepsGone.mono (fun x hx => List.mem_cons_of_mem _ hx) ?_
    rcases List.mem_cons.mp hu with rfl | hu
    · rw [hid] at hc'
      cases hc'
      exact hroot
    · exact hinv.closed u c' hu hc'

theorem Scc.Inv.release_partial (hroot : DepsGone deps b gone c)
    (hrem : IdSet.remove s id ≠ []) :
    Scc.Inv deps b (id :: gone)
      { g with
        belongs := g.belongs.filter (·.1 != id),
        strongs := g.strongs.mapAt c fun _ => IdSet.remove s id } := by
  have halive : ∀ d, Alive b (id :: gone) d ↔ Alive b gone d := fun d =>
    (hinv.alive_cons hid hs d).trans (and_iff_left fun _ => hrem)
  obtain ⟨h1, h2, h3, h4⟩ := hinv.release_common hid hng hroot
  exact {
    gone_nodup := h1, gone_sub := h2, belongs := h3, closed := h4
    strongs_query := hinv.strongs_query_cons hid hs fun c' => by
      simp only [AMap.query, AMap.get?_mapAt]
      split
      · next hc =>
        rw [hc, hs]
        rfl
      · rfl
    strongs_isSome := fun c' => by
      rw [AMap.isSome_get?_mapAt, halive, hinv.strongs_isSome]
    strongs_nodup := fun c' t h => by
      rw [AMap.get?_mapAt] at h
      split at h
      · obtain ⟨_, _, rfl⟩ := Option.map_eq_some_iff.mp h
        exact IdSet.nodup_remove (hinv.strongs_nodup c s hs)
      · exact hinv.strongs_nodup c' t h
    deps_isSome := hinv.deps_isSome
    deps_query := fun c' d => by
      rw [halive]
      exact hinv.deps_query c' d
    srcs_isSome := fun d hd => hinv.srcs_isSome d ((halive d).mp hd)
    srcs_query := fun c' d hd => hinv.srcs_query c' d ((halive d).mp hd)
    roots_nodup := hinv.roots_nodup
    roots := fun c' => by
      simp only [halive]
      exact hinv.roots c' }

theorem Scc.Inv.release_last {σ : Sched} (hσ : σ.Valid) {next : IdSet}
    (hroot : DepsGone deps b gone c)
    (hrem : IdSet.remove s id = []) (hnext : g.srcs.get? c = some next) :
    Scc.Inv deps b (id :: gone)
      { strongs := g.strongs.remove c,
        belongs := g.belongs.filter (·.1 != id),
        srcs := g.srcs.remove c,
        deps := (σ next).foldl (relDepsStep c) g.deps,
        roots := IdSet.union (IdSet.remove g.roots c)
          (next.filter fun x => (((σ next).foldl (relDepsStep c) g.deps).query x).isEmpty) } := by
  have hcalive : Alive b gone c := ⟨id, hid, hng⟩
  have halive : ∀ d, Alive b (id :: gone) d ↔ (Alive b gone d ∧ d ≠ c) := fun d =>
    (hinv.alive_cons hid hs d).trans
      (and_congr_right fun _ => ⟨fun h hdc => h hdc hrem, fun h hdc => absurd hdc h⟩)
  have hnextq : ∀ n, n ∈ next ↔ CEdge deps b n c := fun n => by
    rw [← hinv.srcs_query n c hcalive, AMap.query_eq_of_get? hnext]
  have hdq : ∀ k x, x ∈ ((σ next).foldl (relDepsStep c) g.deps).query k ↔
      (CEdge deps b k x ∧ Alive b (id :: gone) x) := by
    intro k x
    rw [relDeps_fold_query, hinv.deps_query, halive, hσ.mem_iff, hnextq, and_assoc]
    exact and_congr_right fun h1 => and_congr_right fun _ =>
      ⟨fun h3 hxc => h3 (hxc ▸ h1) hxc, fun h3 _ => h3⟩
  -- a component whose last dependency has just gone has no dependency left in the new `deps`
  have hempty : ∀ k, (((σ next).foldl (relDepsStep c) g.deps).query k).isEmpty = true ↔
      DepsGone deps b (id :: gone) k := by
    intro k
    rw [List.isEmpty_iff, List.eq_nil_iff_forall_not_mem]
    exact forall_congr' fun d => (not_congr (hdq k d)).trans not_and
  -- `x` depends on `c`, which was alive: by `closed` no member of `x` is gone
  have hup : ∀ x, CEdge deps b x c → Alive b gone x ∧ x ≠ c := by
    intro x hx
    obtain ⟨u, hu⟩ := hx.isComp_left
    exact ⟨⟨u, hu, fun hug => hinv.closed u x hug hu c hx hcalive⟩, hx.1⟩
  obtain ⟨h1, h2, h3, h4⟩ := hinv.release_common hid hng hroot
  exact {
    gone_nodup := h1, gone_sub := h2, belongs := h3, closed := h4
    strongs_query := hinv.strongs_query_cons hid hs fun c' => by
      rw [hrem]
      exact AMap.query_remove ..
    strongs_isSome := fun c' => by
      rw [AMap.get?_remove, halive, ← hinv.strongs_isSome]
      by_cases hc : c' = c <;> simp [hc]
    strongs_nodup := fun c' t h => by
      rw [AMap.get?_remove] at h
      split at h
      · cases h
      · exact hinv.strongs_nodup c' t h
    deps_isSome := fun c' hc' => (relDeps_fold_isSome ..).trans (hinv.deps_isSome c' hc')
    deps_query := hdq
    srcs_isSome := fun d hd => by
      rw [AMap.get?_remove, if_neg ((halive d).mp hd).2]
      exact hinv.srcs_isSome d ((halive d).mp hd).1
    srcs_query := fun c' d hd => by
      rw [AMap.query_remove, if_neg ((halive d).mp hd).2]
      exact hinv.srcs_query c' d ((halive d).mp hd).1
    roots_nodup := IdSet.nodup_union (IdSet.nodup_remove hinv.roots_nodup)
    roots := fun x => by
      rw [IdSet.mem_union, IdSet.mem_remove, List.mem_filter, hinv.roots, hnextq, hempty]
      exact kahn_step halive hup x }

end release

/-- `releaseOne` preserves the invariant and never reaches an `unreachable!`/`unwrap` site,
provided the id is an unreleased member of a component all of whose dependencies are gone. -/
theorem Scc.releaseOne_preserves_inv {σ : Sched} (hσ : σ.Valid) {deps : AMap}
    {b : List (Nat × Nat)} {gone : List Nat} {g : Scc}
    (hinv : Scc.Inv deps b gone g) {id c : Nat}
    (hid : lookup b id = some c) (hng : id ∉ gone)
    (hroot : DepsGone deps b gone c) :
    ∃ g', g.releaseOne σ id = .ok g' ∧ Scc.Inv deps b (id :: gone) g' := by
  have hcalive : Alive b gone c := ⟨id, hid, hng⟩
  obtain ⟨s, hs⟩ := Option.isSome_iff_exists.mp ((hinv.strongs_isSome c).mpr hcalive)
  obtain ⟨next, hnext⟩ := Option.isSome_iff_exists.mp (hinv.srcs_isSome c hcalive)
  have hdeps : ∀ n ∈ σ next, (g.deps.get? n).isSome = true := fun n hn => by
    rw [hσ.mem_iff, ← AMap.query_eq_of_get? hnext, hinv.srcs_query n c hcalive] at hn
    exact hinv.deps_isSome n hn.isComp_left
  unfold Scc.releaseOne
  simp only [hinv.belongs, if_neg hng, hid, hs, hnext]
  split
  · next hrem =>
    exact ⟨_, rfl, hinv.release_partial hid hng hs hroot (by simpa using hrem)⟩
  · next hrem =>
    -- no `get_mut(n).unwrap()` fails: the dependents of `c` are keys of `deps`, and stay so
    rw [foldlM_eq_ok (fun (d : AMap) => ∀ n ∈ σ next, (d.get? n).isSome = true) (g := relDepsStep c)
      (σ next) g.deps (fun d n hn hd => ⟨?_, fun n' hn' => ?_⟩) hdeps]
    · exact ⟨_, rfl, hinv.release_last hid hng hs hσ hroot (by simpa using hrem) hnext⟩
    · rw [AMap.removeFrom?_eq, hd n hn]
      rfl
    · rw [relDepsStep, AMap.isSome_get?_mapAt]
      exact hd n' hn'

theorem Scc.mem_top {σ : Sched} (hσ : σ.Valid) {g : Scc} {grp : IdSet} :
    grp ∈ g.top σ ↔ ∃ root ∈ g.roots, ∃ s, g.strongs.get? root = some s ∧ σ s = grp := by
  unfold Scc.top
  simp only [List.mem_filterMap, hσ.mem_iff, Option.map_eq_some_iff]

section top
variable {σ : Sched} (hσ : σ.Valid) {deps : AMap} {b : List (Nat × Nat)} {gone : List Nat} {g : Scc}
  (hinv : Scc.Inv deps b gone g)
include hσ hinv

theorem Scc.Inv.of_mem_top {grp : IdSet} (hgrp : grp ∈ g.top σ) :
    ∃ c, (∀ u, u ∈ grp ↔ (lookup b u = some c ∧ u ∉ gone)) ∧
      Alive b gone c ∧ DepsGone deps b gone c ∧ grp.Nodup := by
  obtain ⟨root, hr, s, hs, rfl⟩ := (Scc.mem_top hσ).mp hgrp
  refine ⟨root, fun u => ?_, ((hinv.roots root).mp hr).1, ((hinv.roots root).mp hr).2,
    hσ.nodup.mpr (hinv.strongs_nodup _ _ hs)⟩
  rw [hσ.mem_iff, ← hinv.strongs_query, AMap.query_eq_of_get? hs]

theorem Scc.Inv.exists_mem_top {c : Nat} (hc : Alive b gone c) (hroot : DepsGone deps b gone c) :
    ∃ grp ∈ g.top σ, ∀ u, u ∈ grp ↔ (lookup b u = some c ∧ u ∉ gone) := by
  obtain ⟨s, hs⟩ := Option.isSome_iff_exists.mp ((hinv.strongs_isSome c).mpr hc)
  refine ⟨σ s, (Scc.mem_top hσ).mpr ⟨c, (hinv.roots c).mpr ⟨hc, hroot⟩, s, hs, rfl⟩, fun u => ?_⟩
  rw [hσ.mem_iff, ← hinv.strongs_query, AMap.query_eq_of_get? hs]

theorem Scc.Inv.top_nodup : ((g.top σ).flatMap id).Nodup := by
  refine List.pairwise_flatMap.mpr ⟨fun grp hgrp => ?_, ?_⟩
  · obtain ⟨_, _, _, _, hnd⟩ := hinv.of_mem_top hσ hgrp
    exact hnd
  · unfold Scc.top
    refine List.Pairwise.filterMap (R := (· ≠ ·)) _ ?_ (hσ.nodup.mpr hinv.roots_nodup)
    intro r r' hne grp hgrp grp' hgrp' x hx y hy
    obtain ⟨s, hs, rfl⟩ := Option.map_eq_some_iff.mp hgrp
    obtain ⟨s', hs', rfl⟩ := Option.map_eq_some_iff.mp hgrp'
    rw [id, hσ.mem_iff, ← AMap.query_eq_of_get? hs, hinv.strongs_query] at hx
    rw [id, hσ.mem_iff, ← AMap.query_eq_of_get? hs', hinv.strongs_query] at hy
    exact lookup_ne_of_comp_ne hx.1 hy.1 hne

end top

end ZV.Graph
