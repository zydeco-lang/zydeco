/-
C20: the simulation between a computation and its translation at the identity monad. Away from
`ret` and `do` a term and its translation have the same form (`Lk.Layer`), so `Lk.step` carries the
comparison of the two runs; at `ret` and `do` the translation inserts administrative redexes, which
are computed once and for all (`lbind_eq`, `lret_some`) and cost the translated run at most three
units of fuel for one of the plain run.
-/
import ZV.Props.C20Statements
import ZV.Proofs.Lockstep

namespace ZV.ZCore.Mo
open ZV.ZCore ZV.Numeric Lk

/-- The translated `do`: `liftIdC (.bind x a m n)` is `lbind x a (liftIdC m) (liftIdC n)`. -/
def lbind (x : Nat) (a : VTy) (m' n' : C) : C :=
  .app (.app idBind (.thunk m' (.ret a))) (.thunk (.fn x a n') (.ret a))

def bindBody : C := .bind 2 .unit (.force (.var 0)) (.app (.force (.var 1)) (.var 2))

theorem lbind_small (E : REnv) (x : Nat) (a : VTy) (m' n' : C) (out : Host.Bytes) :
    ∀ f, f < 4 → evalRC f E (lbind x a m' n') out = none
  | 0, _ | 1, _ | 2, _ | 3, _ => rfl
  | f + 4, h => by omega

/-- The translated `do` with fuel `f + 4` runs its bindee and its tail with fuel `f + 1` each, as a
plain `do` with fuel `f + 2` does, except that at `f = 0` the fuel runs out on the way to the tail. -/
theorem lbind_eq (f : Nat) (E : REnv) (x : Nat) (a : VTy) (m' n' : C) (out : Host.Bytes) :
    evalRC (f + 4) E (lbind x a m' n') out
      = thenK (evalRC (f + 1) E m' out) fun t o =>
          match t, f with
          | .ret _, 0 => none
          | .ret v, _ + 1 => evalRC (f + 1) ((x, v) :: E) n' o
          | _, _ => some (.wrong, o) := by
  -- three steps put the two thunks in the environment and reach the body of the identity `bind`
  rw [show evalRC (f + 4) E (lbind x a m' n') out
        = evalRC (f + 3) ((1, .thunk (.fn x a n') E) :: (0, .thunk m' E) :: E) bindBody out from rfl,
    bindBody, evalRC_bind]
  congr 1
  funext t o
  cases t with
  | ret v => cases f <;> rfl
  | _ => rfl

theorem lret_one (E : REnv) (v : V) (a : RVal) (out : Host.Bytes) (hv : evalRV E v = some a) :
    evalRC 1 E (.app idReturn v) out = none := by
  simp only [evalRC, hv]

theorem lret_some (k : Nat) (E : REnv) (v : V) (a : RVal) (out : Host.Bytes)
    (hv : evalRV E v = some a) : evalRC (k + 2) E (.app idReturn v) out = some (.ret a, out) := by
  simp only [evalRC, hv, idReturn]
  rfl

/-- Code and its translation; free names stand for themselves. -/
def LiftK (N : NRel) (m m' : C) : Prop := m' = liftIdC m ∧ ∀ x, N x x

theorem liftV_corr {N : NRel} (hN : ∀ x, N x x) : ∀ v : V, VCorr LiftK N v (liftIdV v)
  | .var x => .var (hN x)
  | .unit => .unit
  | .int t x => .int t x
  | .str s => .str s
  | .pair a b => .pair (liftV_corr hN a) (liftV_corr hN b)
  | .ctor d k a => .ctor d k (liftV_corr hN a)
  | .thunk _ b => .thunk b ⟨rfl, hN⟩

theorem liftArms_corr {N : NRel} (hN : ∀ x, N x x) :
    ∀ arms : List (String × Nat × C), Arms₂ (ArmCorr LiftK N) arms (liftIdArms arms)
  | [] => .nil
  | (_, x, _) :: rest => .cons ⟨rfl, NRel.ext_refl hN x⟩ (liftArms_corr hN rest)

theorem liftCoArms_corr {N : NRel} (hN : ∀ x, N x x) :
    ∀ arms : List (String × C), Arms₂ (LiftK N) arms (liftIdCoArms arms)
  | [] => .nil
  | _ :: rest => .cons ⟨rfl, hN⟩ (liftCoArms_corr hN rest)

theorem lift_layer {N : NRel} (hN : ∀ x, N x x) (m : C) :
    (∃ v, m = .ret v) ∨ (∃ x a p q, m = .bind x a p q) ∨ Layer LiftK N m (liftIdC m) := by
  have hv := liftV_corr hN
  have hx := NRel.ext_refl hN
  cases m
  case ret v => exact .inl ⟨v, rfl⟩
  case bind x a p q => exact .inr (.inl ⟨x, a, p, q, rfl⟩)
  all_goals refine .inr (.inr ?_)
  case clet x v m => exact .clet (hv v) ⟨rfl, hx x⟩
  case letPair x y v m => exact .letPair (hv v) ⟨rfl, NRel.ext_refl (hx x) y⟩
  case fn x a m => exact .fn ⟨rfl, hx x⟩
  case app m v => exact .app ⟨rfl, hN⟩ (hv v)
  case force v => exact .force (hv v)
  case fix f b m => exact .fix ⟨rfl, hN⟩ ⟨rfl, hx f⟩
  case case v d arms b => exact .case (hv v) (liftArms_corr hN arms)
  case comatch c0 arms => exact .comatch (liftCoArms_corr hN arms)
  case dtor m c => exact .dtor ⟨rfl, hN⟩
  case arith t op p q => exact .arith t op (hv p) (hv q)
  case cmp t op p q res yes no => exact .cmp t op res (hv p) (hv q) ⟨rfl, hN⟩ ⟨rfl, hN⟩
  case toStr t p => exact .toStr t (hv p)
  case strAppend p q => exact .strAppend (hv p) (hv q)
  case writeLine p c => exact .writeLine (hv p) ⟨rfl, hN⟩
  case exit p => exact .exit (hv p)

-- At `ret` and `do` the translated run can stop short inside the inserted redex (`hz`): this is
-- harmless for a comparison that follows the translated run and does not happen, with the fuel that
-- `fwd` provides, for one that follows the plain run.

section
variable {D : Run → Run → Prop} (hD : Good LiftK D) {n k : Nat} {N : NRel} {E E' : REnv}
  {out : Host.Bytes}
include hD

theorem sim_ret {v : V} (hz : k = 0 → ∀ x, D x none) (hN : ∀ x, N x x) (he : EnvRel LiftK N E E') :
    D (evalRC (n + 1) E (.ret v) out) (evalRC (k + 1) E' (liftIdC (.ret v)) out) := by
  simp only [liftIdC]
  rcases evalRV_rel he (liftV_corr hN v) with ⟨h1, h2⟩ | ⟨a, a', h1, h2, hr⟩
  · rw [evalRC_app_none k E' _ _ out h2]
    simp only [evalRC, h1]
    exact hD.ok .wrong
  · cases k with
    | zero => rw [lret_one E' _ a' out h2]; exact hz rfl _
    | succ k =>
      rw [lret_some k E' _ a' out h2, evalRC_ret n E v a out h1]
      exact hD.ok (.ret hr)

theorem sim_bind {f : Nat} (hz : f = 0 → ∀ x, D x none) (ih : SimAt LiftK D n (f + 1)) {x : Nat}
    {a : VTy} {m n2 : C} (hN : ∀ x, N x x) (he : EnvRel LiftK N E E') :
    D (evalRC (n + 1) E (.bind x a m n2) out) (evalRC (f + 4) E' (liftIdC (.bind x a m n2)) out) := by
  simp only [liftIdC]
  rw [evalRC_bind, ← lbind, lbind_eq]
  refine hD.thenK (ih ⟨rfl, hN⟩ he) fun t t' o ht => ?_
  cases ht with
  | ret hv =>
    cases f with
    | zero => exact hz rfl _
    | succ f => exact ih ⟨rfl, NRel.ext_refl hN x⟩ (he.cons x x hv)
  | _ => cases f <;> exact hD.ok .wrong

end

theorem fwd (n k : Nat) (hk : 3 * n + 2 ≤ k) : SimAt LiftK (Fwd LiftK) n k := by
  induction n generalizing k with
  | zero => exact fun _ _ => Fwd.none_left _
  | succ n ih =>
    obtain ⟨f, rfl⟩ : ∃ f, k = f + 4 := ⟨k - 4, by omega⟩
    rintro N E E' m _ out ⟨rfl, hN⟩ he
    rcases lift_layer hN m with ⟨v, rfl⟩ | ⟨x, a, p, q, rfl⟩ | hl
    · exact sim_ret goodFwd (k := f + 3) (fun h => by omega) hN he
    · exact sim_bind goodFwd (fun h => by omega) (ih (f + 1) (by omega)) hN he
    · exact step goodFwd (ih (f + 3) (by omega)) hl he

theorem bwd (n k : Nat) (hk : k ≤ n) : SimAt LiftK (Bwd LiftK) n k := by
  induction n generalizing k with
  | zero => obtain rfl := Nat.le_zero.1 hk; exact fun _ _ => Bwd.none_right _
  | succ n ih =>
    cases k with
    | zero => exact fun _ _ => Bwd.none_right _
    | succ k =>
      rintro N E E' m _ out ⟨rfl, hN⟩ he
      rcases lift_layer hN m with ⟨v, rfl⟩ | ⟨x, a, p, q, rfl⟩ | hl
      · exact sim_ret goodBwd (fun _ => Bwd.none_right) hN he
      · by_cases hs : k + 1 < 4
        · simp only [liftIdC]
          rw [← lbind, lbind_small E' x a _ _ out (k + 1) hs]
          exact Bwd.none_right _
        · obtain ⟨f, rfl⟩ : ∃ f, k = f + 3 := ⟨k - 3, by omega⟩
          exact sim_bind goodBwd (fun _ => Bwd.none_right) (ih (f + 1) (by omega)) hN he
      · exact step goodBwd (ih k (by omega)) hl he

theorem ground_eq {K : NRel → C → C → Prop} {v v' : RVal} (h : VRel K v v') :
    v.ground = true ∨ v'.ground = true → v' = v := by
  induction h with
  | unit => intro _; rfl
  | int t x => intro _; rfl
  | str s => intro _; rfl
  | pair _ _ iha ihb =>
    intro g
    simp only [RVal.ground, Bool.and_eq_true] at g
    rw [iha (g.imp (·.1) (·.1)), ihb (g.imp (·.2) (·.2))]
  | ctor k _ ih =>
    intro g
    simp only [RVal.ground] at g
    rw [ih g]
  | thunk _ _ _ => intro g; simp [RVal.ground] at g

theorem fwd_closed (m : C) (fuel : Nat) (t : RTerm) (out : Host.Bytes)
    (h : evalRC fuel [] m [] = some (t, out)) :
    ∃ t', evalRC (3 * fuel + 2) [] (liftIdC m) [] = some (t', out) ∧ TRel LiftK t t' :=
  fwd fuel (3 * fuel + 2) (Nat.le_refl _) (N := Eq) ⟨rfl, fun _ => rfl⟩ EnvRel.nil t out h

theorem bwd_closed (m : C) (fuel : Nat) (t' : RTerm) (out : Host.Bytes)
    (h : evalRC fuel [] (liftIdC m) [] = some (t', out)) :
    ∃ t, evalRC fuel [] m [] = some (t, out) ∧ TRel LiftK t t' :=
  bwd fuel fuel (Nat.le_refl _) (N := Eq) ⟨rfl, fun _ => rfl⟩ EnvRel.nil t' out h

end ZV.ZCore.Mo
