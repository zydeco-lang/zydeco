/-
C06 — the one case analysis of `hostOp`'s big match (`hostOp_cases`), with what it is stated in:
the position of a role among the arms (`armIndex`), the classifier each arm is proved against
(`armAbi`), the argument lists of a given shape (`build`), and the numeric fall-through with the
continuation factored out (`numericK`).
-/
import ZV.Model.Abi

namespace ZV.Host
open ZV.Numeric ZV.Abi

/-- Position of a role among the arms of `hostOp`'s big match (`0`: none, the numeric fall-through). -/
def armIndex (role : String) : Nat :=
  if role = "str_scalar_length" then 1
  else if role = "str_byte_length" then 2
  else if role = "str_append" then 3
  else if role = "str_split_once" then 4
  else if role = "str_split_at" then 5
  else if role = "str_eq" then 6
  else if role = "str_get" then 7
  else if role = "char_to_str" then 8
  else if role = "char_codepoint" then 9
  else if role = "char_from_codepoint" then 10
  else if role = "str_parse_int" then 11
  else if role = "bytes_empty" then 12
  else if role = "bytes_length" then 13
  else if role = "bytes_append" then 14
  else if role = "bytes_from_str" then 15
  else if role = "bytes_to_str" then 16
  else if role = "stdin" then 17
  else if role = "stdout" then 18
  else if role = "stderr" then 19
  else if role = "io_read" then 20
  else if role = "io_read_line" then 21
  else if role = "io_read_all" then 22
  else if role = "io_write_all" then 23
  else if role = "io_flush" then 24
  else if role = "io_close_reader" then 25
  else if role = "io_close_writer" then 26
  else if role = "fs_open_reader" then 27
  else if role = "fs_create_writer" then 28
  else if role = "fs_append_writer" then 29
  else if role = "write_str" then 30
  else if role = "write_int" then 31
  else if role = "write_line" then 32
  else if role = "read_line" then 33
  else if role = "read_line_as_int" then 34
  else if role = "read_till_eof" then 35
  else if role = "arg_list" then 36
  else if role = "random_int" then 37
  else if role = "exit" then 38
  else 0

/-- The classifier each non-numeric arm was proved against (checked against the regenerated table
in `ZV/Props/C06.lean`). -/
def armAbi : Nat → Option VC
  | 1 => some (.thunk (.arrow (.atom .str) (.ret (.atom (.int .i64)))))
  | 2 => some (.thunk (.arrow (.atom .str) (.ret (.atom (.int .i64)))))
  | 3 => some (.thunk (.arrow (.atom .str) (.arrow (.atom .str) (.ret (.atom .str)))))
  | 4 => some (.thunk (.forallC (.arrow (.atom .str) (.arrow (.atom .chr) (.arrow (.thunk (.bound 0)) (.arrow (.thunk (.arrow (.atom .str) (.arrow (.atom .str) (.bound 0)))) (.bound 0)))))))
  | 5 => some (.thunk (.forallC (.arrow (.atom .str) (.arrow (.atom (.int .i64)) (.arrow (.thunk (.bound 0)) (.arrow (.thunk (.arrow (.atom .str) (.arrow (.atom .str) (.bound 0)))) (.bound 0)))))))
  | 6 => some (.thunk (.forallC (.arrow (.atom .str) (.arrow (.atom .str) (.arrow (.thunk (.bound 0)) (.arrow (.thunk (.bound 0)) (.bound 0)))))))
  | 7 => some (.thunk (.forallC (.arrow (.atom .str) (.arrow (.atom (.int .i64)) (.arrow (.thunk (.bound 0)) (.arrow (.thunk (.arrow (.atom .chr) (.bound 0))) (.bound 0)))))))
  | 8 => some (.thunk (.arrow (.atom .chr) (.ret (.atom .str))))
  | 9 => some (.thunk (.arrow (.atom .chr) (.ret (.atom (.int .i64)))))
  | 10 => some (.thunk (.forallC (.arrow (.atom (.int .i64)) (.arrow (.thunk (.bound 0)) (.arrow (.thunk (.arrow (.atom .chr) (.bound 0))) (.bound 0))))))
  | 11 => some (.thunk (.forallC (.arrow (.atom .str) (.arrow (.thunk (.bound 0)) (.arrow (.thunk (.arrow (.atom (.int .i64)) (.bound 0))) (.bound 0))))))
  | 12 => some (.thunk (.ret (.atom .bytes)))
  | 13 => some (.thunk (.arrow (.atom .bytes) (.ret (.atom (.int .i64)))))
  | 14 => some (.thunk (.arrow (.atom .bytes) (.arrow (.atom .bytes) (.ret (.atom .bytes)))))
  | 15 => some (.thunk (.arrow (.atom .str) (.ret (.atom .bytes))))
  | 16 => some (.thunk (.forallC (.arrow (.atom .bytes) (.arrow (.thunk (.bound 0)) (.arrow (.thunk (.arrow (.atom .str) (.bound 0))) (.bound 0))))))
  | 17 => some (.thunk (.ret (.atom .reader)))
  | 18 => some (.thunk (.ret (.atom .writer)))
  | 19 => some (.thunk (.ret (.atom .writer)))
  | 20 => some (.thunk (.arrow (.atom .reader) (.arrow (.atom (.int .i64)) (.arrow (.thunk (.arrow (.atom (.int .i64)) (.arrow (.atom .str) .os))) (.arrow (.thunk (.arrow (.atom .bytes) .os)) .os)))))
  | 21 => some (.thunk (.arrow (.atom .reader) (.arrow (.thunk (.arrow (.atom (.int .i64)) (.arrow (.atom .str) .os))) (.arrow (.thunk .os) (.arrow (.thunk (.arrow (.atom .bytes) .os)) .os)))))
  | 22 => some (.thunk (.arrow (.atom .reader) (.arrow (.thunk (.arrow (.atom (.int .i64)) (.arrow (.atom .str) .os))) (.arrow (.thunk (.arrow (.atom .bytes) .os)) .os))))
  | 23 => some (.thunk (.arrow (.atom .writer) (.arrow (.atom .bytes) (.arrow (.thunk (.arrow (.atom (.int .i64)) (.arrow (.atom .str) .os))) (.arrow (.thunk .os) .os)))))
  | 24 => some (.thunk (.arrow (.atom .writer) (.arrow (.thunk (.arrow (.atom (.int .i64)) (.arrow (.atom .str) .os))) (.arrow (.thunk .os) .os))))
  | 25 => some (.thunk (.arrow (.atom .reader) (.arrow (.thunk (.arrow (.atom (.int .i64)) (.arrow (.atom .str) .os))) (.arrow (.thunk .os) .os))))
  | 26 => some (.thunk (.arrow (.atom .writer) (.arrow (.thunk (.arrow (.atom (.int .i64)) (.arrow (.atom .str) .os))) (.arrow (.thunk .os) .os))))
  | 27 => some (.thunk (.arrow (.atom .str) (.arrow (.thunk (.arrow (.atom (.int .i64)) (.arrow (.atom .str) .os))) (.arrow (.thunk (.arrow (.atom .reader) .os)) .os))))
  | 28 => some (.thunk (.arrow (.atom .str) (.arrow (.thunk (.arrow (.atom (.int .i64)) (.arrow (.atom .str) .os))) (.arrow (.thunk (.arrow (.atom .writer) .os)) .os))))
  | 29 => some (.thunk (.arrow (.atom .str) (.arrow (.thunk (.arrow (.atom (.int .i64)) (.arrow (.atom .str) .os))) (.arrow (.thunk (.arrow (.atom .writer) .os)) .os))))
  | 30 => some (.thunk (.arrow (.atom .str) (.arrow (.thunk .os) .os)))
  | 31 => some (.thunk (.arrow (.atom (.int .i64)) (.arrow (.thunk .os) .os)))
  | 32 => some (.thunk (.arrow (.atom .str) (.arrow (.thunk .os) .os)))
  | 33 => some (.thunk (.arrow (.thunk (.arrow (.atom .str) .os)) .os))
  | 34 => some (.thunk (.arrow (.thunk .os) (.arrow (.thunk (.arrow (.atom (.int .i64)) .os)) .os)))
  | 35 => some (.thunk (.arrow (.thunk (.arrow (.atom .str) .os)) .os))
  | 36 => some (.thunk (.forallC (.arrow (.thunk (.bound 0)) (.arrow (.thunk (.arrow (.atom .str) (.arrow (.thunk (.bound 0)) (.bound 0)))) (.bound 0)))))
  | 37 => some (.thunk (.arrow (.thunk (.arrow (.atom (.int .i64)) .os)) .os))
  | 38 => some (.thunk (.arrow (.atom (.int .i64)) .os))
  | _ => none

/-! Arguments of the classes `ps` are exactly the lists `build ps xs`, `xs` a tuple of what each
value carries: on such a list a match on the argument pattern computes. -/

def Field : VC → Type
  | .atom (.int t) => BitVec t.width
  | .atom .f32 => UInt32
  | .atom .f64 => UInt64
  | .atom .chr => Char
  | .atom .str => List Char
  | .atom .bytes => Bytes
  | .atom .reader | .atom .writer | .thunk _ => Nat

def inj : (c : VC) → Field c → HV
  | .atom (.int t), x => .int t x
  | .atom .f32, x => .f32 x
  | .atom .f64, x => .f64 x
  | .atom .chr, x => .chr x
  | .atom .str, x => .str x
  | .atom .bytes, x => .bytes x
  | .atom .reader, x => .reader x
  | .atom .writer, x => .writer x
  | .thunk _, x => .thunk x

def Fields : List VC → Type
  | [] => Unit
  | c :: cs => Field c × Fields cs

def build : (ps : List VC) → Fields ps → List HV
  | [], _ => []
  | c :: cs, xs => inj c xs.1 :: build cs xs.2

theorem inj_of_hasClass {v : HV} {c : VC} : hasClass v c = true → ∃ x, v = inj c x := by
  fun_cases hasClass v c
  case case1 t x t' => intro h; cases (beq_iff_eq.1 h : t = t'); exact ⟨x, rfl⟩
  case case10 => intro h; cases h
  all_goals exact fun _ => ⟨_, rfl⟩

theorem build_of_argsHaveClass : ∀ {args : List HV} {ps : List VC}, argsHaveClass args ps = true →
    ∃ xs, args = build ps xs
  | [], [], _ => ⟨(), rfl⟩
  | v :: vs, c :: cs, h => by
    simp only [argsHaveClass, Bool.and_eq_true] at h
    obtain ⟨x, rfl⟩ := inj_of_hasClass h.1
    obtain ⟨xs, rfl⟩ := build_of_argsHaveClass h.2
    exact ⟨(x, xs), rfl⟩
  | [], _ :: _, h | _ :: _, [], h => by cases h

/-! Lean compiles the nested argument patterns of `hostOp` and `intOp` to two-way splits "this
constructor, or else" (the `_sparseCasesOn_n` of `#print hostOp.match_20`). Their elimination rules
at a constant motive have two cases each, where `cases` has one per constructor. -/

section
variable {α : Type} {P : α → Prop}

theorem cons_or_else {l : List HV} {f : HV → List HV → α} {g : _ → α} (hf : ∀ a b, P (f a b))
    (hg : ∀ h, P (g h)) : P (intOp._sparseCasesOn_3 (motive := fun _ => α) l f g) := by
  cases l <;> first | exact hf _ _ | exact hg _

theorem nil_or_else {l : List HV} {f : α} {g : _ → α} (hf : P f) (hg : ∀ h, P (g h)) :
    P (intOp._sparseCasesOn_5 (motive := fun _ => α) l f g) := by
  cases l <;> first | exact hf | exact hg _

theorem int_or_else {v : HV} {f : (t : IntTy) → BitVec t.width → α} {g : _ → α} (hf : ∀ a b, P (f a b))
    (hg : ∀ h, P (g h)) : P (intOp._sparseCasesOn_4 (motive := fun _ => α) v f g) := by
  cases v <;> first | exact hf _ _ | exact hg _

theorem i64_or_else {t : IntTy} {x : BitVec t.width} {f : BitVec IntTy.i64.width → α}
    {g : _ → BitVec t.width → α} (hf : ∀ a, P (f a)) (hg : ∀ h x, P (g h x)) :
    P (hostOp._sparseCasesOn_22 (motive := fun t => BitVec t.width → α) t f g x) := by
  cases t <;> first | exact hf _ | exact hg _ _

theorem thunk_or_else {v : HV} {f : Nat → α} {g : _ → α} (hf : ∀ a, P (f a)) (hg : ∀ h, P (g h)) :
    P (intOp._sparseCasesOn_8 (motive := fun _ => α) v f g) := by
  cases v <;> first | exact hf _ | exact hg _

theorem str_or_else {v : HV} {f : List Char → α} {g : _ → α} (hf : ∀ a, P (f a)) (hg : ∀ h, P (g h)) :
    P (hostOp._sparseCasesOn_20 (motive := fun _ => α) v f g) := by
  cases v <;> first | exact hf _ | exact hg _

theorem chr_or_else {v : HV} {f : Char → α} {g : _ → α} (hf : ∀ a, P (f a)) (hg : ∀ h, P (g h)) :
    P (hostOp._sparseCasesOn_21 (motive := fun _ => α) v f g) := by
  cases v <;> first | exact hf _ | exact hg _

theorem bytes_or_else {v : HV} {f : Bytes → α} {g : _ → α} (hf : ∀ a, P (f a)) (hg : ∀ h, P (g h)) :
    P (hostOp._sparseCasesOn_23 (motive := fun _ => α) v f g) := by
  cases v <;> first | exact hf _ | exact hg _

theorem reader_or_else {v : HV} {f : Nat → α} {g : _ → α} (hf : ∀ a, P (f a)) (hg : ∀ h, P (g h)) :
    P (hostOp._sparseCasesOn_24 (motive := fun _ => α) v f g) := by
  cases v <;> first | exact hf _ | exact hg _

theorem writer_or_else {v : HV} {f : Nat → α} {g : _ → α} (hf : ∀ a, P (f a)) (hg : ∀ h, P (g h)) :
    P (hostOp._sparseCasesOn_25 (motive := fun _ => α) v f g) := by
  cases v <;> first | exact hf _ | exact hg _

end

def paramsOf (i : Nat) : List VC := ((armAbi i).bind VC.opParams).getD []

def shapeOk (i : Nat) (args : List HV) : Bool :=
  match (armAbi i).bind VC.opParams with
  | some ps => argsHaveClass args ps
  | none => false

theorem build_of_shapeOk {i : Nat} {args : List HV} (h : shapeOk i args = true) :
    ∃ xs, args = build (paramsOf i) xs := by
  unfold shapeOk at h
  unfold paramsOf
  split at h
  · next ps hps => rw [hps]; exact build_of_argsHaveClass h
  · cases h

theorem shapeOk_cases {α : Type} {P : Nat → α → Prop} {i : Nat} {x : α} (args : List HV)
    (hf : shapeOk i args = false → P i x) (ht : shapeOk i args = true → P i x) : P i x := by
  cases h : shapeOk i args
  · exact hf h
  · exact ht h

/-- One step down two `if c then … else …` chains over the same conditions, one of values and one
of numbers (`armIndex`). -/
theorem ite_dite_elim {α : Type} {P : Nat → α → Prop} {c : Prop} [Decidable c]
    {i j : Nat} {t : c → α} {e : ¬c → α} (ht : ∀ h, P i (t h)) (he : ∀ h, P j (e h)) :
    P (if c then i else j) (dite c t e) := by
  split
  · exact ht _
  · exact he _

-- without hygiene, or the `rfl` of the `obtain` pattern is taken for a name
set_option hygiene false in
/-- One arm of the big match, selected by `h : role = "…"`. Arguments of the shape of the arm's
classifier are `build ps xs`, on which the arm's pattern computes. For the others, descend through
the two-way splits (the goal says which rule applies) to the arm's own pattern (`arm`) or to a
fall-through (`other`). -/
macro "zv_peel_arm " h:ident other:ident arm:ident : tactic => `(tactic|
  (subst $h
   refine shapeOk_cases ‹List HV› (fun hs => ?_) (fun hs => ?_)
   · repeat' (intros; first
       | exact $other _ _ _ hs
       | apply $arm
       | apply cons_or_else | apply nil_or_else | apply str_or_else | apply thunk_or_else
       | apply int_or_else | apply i64_or_else | apply bytes_or_else | apply reader_or_else
       | apply writer_or_else | apply chr_or_else)
   · obtain ⟨_, rfl⟩ := build_of_shapeOk hs
     apply $arm))

/-- Case analysis on `hostOp`'s big match, whatever its arms `h_i` return. A property of the arm's
number (`armIndex role`; `0` for a role outside the 38) and the result holds if it holds in every
arm and in the fall-through, which arguments of the shape of the role's classifier never reach.
The proof walks the `if role = "…"` chains of `armIndex` and of the match in step. Printed by
`scratch/gen_elim4.py`. -/
theorem hostOp_cases {α : Type} (P : Nat → α → Prop) (role : String) (args : List HV)
    (h_1 : List Char → α)
    (h_2 : List Char → α)
    (h_3 : List Char → List Char → α)
    (h_4 : List Char → Char → Nat → Nat → α)
    (h_5 : List Char → BitVec IntTy.i64.width → Nat → Nat → α)
    (h_6 : List Char → List Char → Nat → Nat → α)
    (h_7 : List Char → BitVec IntTy.i64.width → Nat → Nat → α)
    (h_8 : Char → α)
    (h_9 : Char → α)
    (h_10 : BitVec IntTy.i64.width → Nat → Nat → α)
    (h_11 : List Char → Nat → Nat → α)
    (h_12 : Unit → α)
    (h_13 : Bytes → α)
    (h_14 : Bytes → Bytes → α)
    (h_15 : List Char → α)
    (h_16 : Bytes → Nat → Nat → α)
    (h_17 : Unit → α)
    (h_18 : Unit → α)
    (h_19 : Unit → α)
    (h_20 : Nat → BitVec IntTy.i64.width → Nat → Nat → α)
    (h_21 : Nat → Nat → Nat → Nat → α)
    (h_22 : Nat → Nat → Nat → α)
    (h_23 : Nat → Bytes → Nat → Nat → α)
    (h_24 : Nat → Nat → Nat → α)
    (h_25 : Nat → Nat → Nat → α)
    (h_26 : Nat → Nat → Nat → α)
    (h_27 : List Char → Nat → Nat → α)
    (h_28 : List Char → Nat → Nat → α)
    (h_29 : List Char → Nat → Nat → α)
    (h_30 : List Char → Nat → α)
    (h_31 : BitVec IntTy.i64.width → Nat → α)
    (h_32 : List Char → Nat → α)
    (h_33 : Nat → α)
    (h_34 : Nat → Nat → α)
    (h_35 : Nat → α)
    (h_36 : Nat → Nat → α)
    (h_37 : HV → α)
    (h_38 : BitVec IntTy.i64.width → α)
    (h_39 : String → List HV → α)
    (str_scalar_length : ∀ x0, P 1 (h_1 x0))
    (str_byte_length : ∀ x0, P 2 (h_2 x0))
    (str_append : ∀ x0 x1, P 3 (h_3 x0 x1))
    (str_split_once : ∀ x0 x1 x2 x3, P 4 (h_4 x0 x1 x2 x3))
    (str_split_at : ∀ x0 x1 x2 x3, P 5 (h_5 x0 x1 x2 x3))
    (str_eq : ∀ x0 x1 x2 x3, P 6 (h_6 x0 x1 x2 x3))
    (str_get : ∀ x0 x1 x2 x3, P 7 (h_7 x0 x1 x2 x3))
    (char_to_str : ∀ x0, P 8 (h_8 x0))
    (char_codepoint : ∀ x0, P 9 (h_9 x0))
    (char_from_codepoint : ∀ x0 x1 x2, P 10 (h_10 x0 x1 x2))
    (str_parse_int : ∀ x0 x1 x2, P 11 (h_11 x0 x1 x2))
    (bytes_empty : ∀ u, P 12 (h_12 u))
    (bytes_length : ∀ x0, P 13 (h_13 x0))
    (bytes_append : ∀ x0 x1, P 14 (h_14 x0 x1))
    (bytes_from_str : ∀ x0, P 15 (h_15 x0))
    (bytes_to_str : ∀ x0 x1 x2, P 16 (h_16 x0 x1 x2))
    (stdin : ∀ u, P 17 (h_17 u))
    (stdout : ∀ u, P 18 (h_18 u))
    (stderr : ∀ u, P 19 (h_19 u))
    (io_read : ∀ x0 x1 x2 x3, P 20 (h_20 x0 x1 x2 x3))
    (io_read_line : ∀ x0 x1 x2 x3, P 21 (h_21 x0 x1 x2 x3))
    (io_read_all : ∀ x0 x1 x2, P 22 (h_22 x0 x1 x2))
    (io_write_all : ∀ x0 x1 x2 x3, P 23 (h_23 x0 x1 x2 x3))
    (io_flush : ∀ x0 x1 x2, P 24 (h_24 x0 x1 x2))
    (io_close_reader : ∀ x0 x1 x2, P 25 (h_25 x0 x1 x2))
    (io_close_writer : ∀ x0 x1 x2, P 26 (h_26 x0 x1 x2))
    (fs_open_reader : ∀ x0 x1 x2, P 27 (h_27 x0 x1 x2))
    (fs_create_writer : ∀ x0 x1 x2, P 28 (h_28 x0 x1 x2))
    (fs_append_writer : ∀ x0 x1 x2, P 29 (h_29 x0 x1 x2))
    (write_str : ∀ x0 x1, P 30 (h_30 x0 x1))
    (write_int : ∀ x0 x1, P 31 (h_31 x0 x1))
    (write_line : ∀ x0 x1, P 32 (h_32 x0 x1))
    (read_line : ∀ x0, P 33 (h_33 x0))
    (read_line_as_int : ∀ x0 x1, P 34 (h_34 x0 x1))
    (read_till_eof : ∀ x0, P 35 (h_35 x0))
    (arg_list : ∀ x0 x1, P 36 (h_36 x0 x1))
    (random_int : ∀ x0, P 37 (h_37 x0))
    (exit : ∀ x0, P 38 (h_38 x0))
    (other : ∀ i x y, shapeOk i args = false → P i (h_39 x y)) :
    P (armIndex role) (hostOp.match_20 (fun _ _ => α) role args h_1 h_2 h_3 h_4 h_5 h_6 h_7 h_8 h_9 h_10 h_11 h_12 h_13 h_14 h_15 h_16 h_17 h_18 h_19 h_20 h_21 h_22 h_23 h_24 h_25 h_26 h_27 h_28 h_29 h_30 h_31 h_32 h_33 h_34 h_35 h_36 h_37 h_38 h_39) := by
  unfold armIndex hostOp.match_20
  iterate 38 (refine ite_dite_elim (P := P) (fun h => ?_) (fun _ => ?_); rotate_left)
  · exact other _ _ _ rfl
  · zv_peel_arm h other str_scalar_length
  · zv_peel_arm h other str_byte_length
  · zv_peel_arm h other str_append
  · zv_peel_arm h other str_split_once
  · zv_peel_arm h other str_split_at
  · zv_peel_arm h other str_eq
  · zv_peel_arm h other str_get
  · zv_peel_arm h other char_to_str
  · zv_peel_arm h other char_codepoint
  · zv_peel_arm h other char_from_codepoint
  · zv_peel_arm h other str_parse_int
  · zv_peel_arm h other bytes_empty
  · zv_peel_arm h other bytes_length
  · zv_peel_arm h other bytes_append
  · zv_peel_arm h other bytes_from_str
  · zv_peel_arm h other bytes_to_str
  · zv_peel_arm h other stdin
  · zv_peel_arm h other stdout
  · zv_peel_arm h other stderr
  · zv_peel_arm h other io_read
  · zv_peel_arm h other io_read_line
  · zv_peel_arm h other io_read_all
  · zv_peel_arm h other io_write_all
  · zv_peel_arm h other io_flush
  · zv_peel_arm h other io_close_reader
  · zv_peel_arm h other io_close_writer
  · zv_peel_arm h other fs_open_reader
  · zv_peel_arm h other fs_create_writer
  · zv_peel_arm h other fs_append_writer
  · zv_peel_arm h other write_str
  · zv_peel_arm h other write_int
  · zv_peel_arm h other write_line
  · zv_peel_arm h other read_line
  · zv_peel_arm h other read_line_as_int
  · zv_peel_arm h other read_till_eof
  · zv_peel_arm h other arg_list
  · zv_peel_arm h other random_int
  · zv_peel_arm h other exit

/-- The `float32_*` / `float64_*` part of `hostOp`'s fall-through arm, generic in what is done with
the outcome (the arm applies `pure` in every branch). -/
def floatK {β : Type} (k : Out → β) (ty op : String) (args : List HV) : β :=
  match ty, args with
  | "float32", [.f32 _] => k (if op == "to_string" then .ret (.str ['?']) else .shapeError)
  | "float64", [.f64 _] => k (if op == "to_string" then .ret (.str ['?']) else .shapeError)
  | "float32", [.f32 a, .f32 b] => k ((f32op op a b).getD .shapeError)
  | "float64", [.f64 a, .f64 b] => k ((f64op op a b).getD .shapeError)
  | "float32", [.f32 a, .f32 b, .thunk _, .thunk _] =>
    let x := Float32.ofBits a; let y := Float32.ofBits b
    match op with
    | "eq" => k (if x == y then .call 2 [] else .call 3 [])
    | "lt" => k (if x < y then .call 2 [] else .call 3 [])
    | "gt" => k (if x > y then .call 2 [] else .call 3 [])
    | _ => k .shapeError
  | "float64", [.f64 a, .f64 b, .thunk _, .thunk _] =>
    let x := Float.ofBits a; let y := Float.ofBits b
    match op with
    | "eq" => k (if x == y then .call 2 [] else .call 3 [])
    | "lt" => k (if x < y then .call 2 [] else .call 3 [])
    | "gt" => k (if x > y then .call 2 [] else .call 3 [])
    | _ => k .shapeError
  | _, _ => k .shapeError

/-- The fall-through arm of `hostOp` (numeric roles), in the same way. -/
def numericK {β : Type} (k : Out → β) (role : String) (args : List HV) : β :=
  match role.splitOn "_" with
  | ty :: opParts =>
    match parseIntTy ty with
    | some t => k (intOp t ("_".intercalate opParts) args)
    | none => floatK k ty ("_".intercalate opParts) args
  | [] => k .shapeError

def floatOp (ty op : String) (args : List HV) : Out := floatK id ty op args
def numericOp (role : String) (args : List HV) : Out := numericK id role args

theorem floatK_eq {β : Type} (k : Out → β) (ty op : String) (args : List HV) :
    floatK k ty op args = k (floatOp ty op args) := by
  unfold floatOp floatK
  split
  all_goals first | rfl | (split <;> rfl)

theorem numericK_eq {β : Type} (k : Out → β) (role : String) (args : List HV) :
    numericK k role args = k (numericOp role args) := by
  unfold numericOp numericK
  split
  · split
    · rfl
    · exact floatK_eq k _ _ _
  · rfl

theorem numericOp_int {role ty : String} {opParts : List String} {t : IntTy}
    (hsp : role.splitOn "_" = ty :: opParts) (ht : parseIntTy ty = some t) (args : List HV) :
    numericOp role args = intOp t ("_".intercalate opParts) args := by
  unfold numericOp numericK
  rw [hsp]
  simp only [ht, id]

theorem numericOp_float {role ty : String} {opParts : List String}
    (hsp : role.splitOn "_" = ty :: opParts) (ht : parseIntTy ty = none) (args : List HV) :
    numericOp role args = floatOp ty ("_".intercalate opParts) args := by
  unfold numericOp numericK
  rw [hsp]
  simp only [ht]
  rfl

end ZV.Host
