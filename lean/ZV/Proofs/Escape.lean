/- Proofs of the C12 statements (string literal spelling). -/
import ZV.Props.C12Statements

namespace ZV.Escape
open ZV.Props.C12.Statement

theorem read_spell_pf : read_spell := by
  intro s
  fun_induction spell s with
  | case7 c rest h1 h2 h3 h4 h5 ih =>
    rw [read.eq_7]
    · simp [ih]
    · intro h _; exact h1 h
    · intro c' r' h _; exact h1 h
  | _ => simp [read, *]

theorem spell_lexes_pf : spell_lexes := by
  intro s
  fun_induction spell s with
  | case7 c rest h1 h2 h3 h4 h5 ih =>
    rw [lexes.eq_5]
    · exact ih
    · intro h _; exact h1 h
    · intro c' r' h _; exact h1 h
    · exact h2
  | _ => simp [lexes, *]

theorem read_escape_isSome (c : Char) (rest : List Char) :
    (read ('\\' :: c :: rest)).isSome = (read rest).isSome := by
  by_cases hn : c = 'n'
  · subst hn; simp [read]
  by_cases hr : c = 'r'
  · subst hr; simp [read]
  by_cases ht : c = 't'
  · subst ht; simp [read]
  rw [read.eq_6 c rest hn hr ht]; simp

theorem read_total_pf : read_total := by
  intro b
  fun_induction lexes b with
  | case1 => simp [read]
  | case2 | case4 rest => intro h; cases h
  | case3 c rest ih =>
    intro h
    simp only [Bool.and_eq_true] at h
    rw [read_escape_isSome, ih h.2]
  | case5 c rest h1 h2 h3 ih =>
    intro h
    rw [read.eq_7 c rest h1 h2]
    simp [ih h]

theorem respell_idempotent_pf : respell_idempotent := by
  intro b s s' _ h
  rw [read_spell_pf s] at h
  cases h
  rfl

theorem spell_injective_pf : spell_injective := by
  intro s t h
  have hs := read_spell_pf s
  rw [h, read_spell_pf t] at hs
  cases hs
  rfl

end ZV.Escape

#print axioms ZV.Escape.read_spell_pf
#print axioms ZV.Escape.spell_lexes_pf
#print axioms ZV.Escape.read_total_pf
#print axioms ZV.Escape.respell_idempotent_pf
#print axioms ZV.Escape.spell_injective_pf
