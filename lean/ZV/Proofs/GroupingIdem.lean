/- Grouping elision: formatting twice with every acceptable parenthesis dropped is formatting once,
   under every requirement table (`elideAt_idem`). -/
import ZV.Proofs.Grouping

namespace ZV.Grouping

theorem dropAll_sub (i : Nat) : dropAll.sub i = dropAll := rfl

theorem elideAt_paren (tbl : Pos → Req) (c : Ctx) (t : T) :
    elideAt tbl dropAll c (.paren t)
      = if c.accepts (cls t) then elideAt tbl dropAll c t
        else .paren (elideAt tbl dropAll (.req .annotated) t) := by
  simp only [elideAt, dropAll_sub]
  simp [dropAll]

theorem accepts_atom (r : Req) : accepts r (.term .atom) = true := by
  rw [accepts_eq]; cases r.level <;> rfl

theorem close_annotated (u : T) : close (.req .annotated) u = u := by
  unfold close; split <;> rfl

/-- A tree whose formatting is just closing it (`hfix`: it is not a singleton parenthesis and its
children are already formatted): closing it and formatting the result gives the closed tree back. -/
theorem close_step (tbl : Pos → Req) (c : Ctx) (u : T)
    (hfix : ∀ c', elideAt tbl dropAll c' u = close c' u) :
    elideAt tbl dropAll c (close c u) = close c u := by
  rcases close_cases c u with ⟨h, _⟩ | h
  · rw [h, hfix, h]
  · -- the parentheses just added go again if the place accepts `u` (an annotation) and come back
    -- with `close`, or stay over an inside that `Annotated` leaves alone
    rw [h, elideAt_paren]
    split
    · rw [hfix, h]
    · rw [hfix, close_annotated]

/-- a parenthesis that the place does not accept is still not accepted after its inside has been
formatted -/
theorem not_accepts_elide (tbl : Pos → Req) (c : Ctx) (t : T) (h : c.accepts (cls t) = false) :
    c.accepts (cls (elideAt tbl dropAll (.req .annotated) t)) = false := by
  cases c with
  | group => rfl
  | req r =>
    have ha := accepts_atom r
    cases t <;> first
      | (have h' : accepts r (.term .atom) = false := h
         rw [ha] at h'; cases h')
      | (simp only [elideAt, close_annotated]; exact h)

theorem elideAt_idem (tbl : Pos → Req) : ∀ (t : T) (c : Ctx),
    elideAt tbl dropAll c (elideAt tbl dropAll c t) = elideAt tbl dropAll c t := by
  intro t
  induction t with
  | paren t ih =>
    intro c
    rw [elideAt_paren]
    split
    · exact ih c
    · next hacc =>
      rw [elideAt_paren, not_accepts_elide tbl c t (Bool.eq_false_iff.2 hacc), ih]; rfl
  | _ =>
    -- every other node is closed after its children have been formatted; by the induction
    -- hypotheses formatting the result again leaves the children alone
    intro c
    simp only [elideAt, dropAll_sub]
    apply close_step tbl c
    intro c'
    simp only [elideAt, dropAll_sub, *]

end ZV.Grouping
