/-
C07, part one: the canonical renaming is idempotent, and typed terms have a canonical form.
-/
import ZV.Props.C07Statements
import ZV.Proofs.ZCoreCheck

namespace ZV.ZCore.Sc
open ZV.ZCore

theorem ren_get_cons (ρ : Ren) (x c y : Nat) :
    Ren.get? ((x, c) :: ρ) y = if x = y then some c else Ren.get? ρ y := assoc_cons (x, c) ρ y

theorem ren_get_nil (y : Nat) : Ren.get? [] y = none := rfl

theorem obind {α β : Type} {x : Option α} {f : α → Option β} {b : β} :
    (x >>= f) = some b ↔ ∃ a, x = some a ∧ f a = some b := by
  cases x <;> simp

/-- `σ` is the identity on every canonical name `ρ` produces. -/
def IdOn (ρ σ : Ren) : Prop := ∀ x k, ρ.get? x = some k → σ.get? k = some k

theorem IdOn.cons {ρ σ : Ren} (h : IdOn ρ σ) (x n : Nat) : IdOn ((x, n) :: ρ) ((n, n) :: σ) := by
  intro y k hy
  rw [ren_get_cons] at hy ⊢
  split at hy
  · cases hy; exact if_pos rfl
  · split
    · next e => rw [e]
    · exact h y k hy

theorem IdOn.nil : IdOn [] [] := fun _ _ h => nomatch h

mutual
  theorem idemV : ∀ (v : V) (n : Nat) (ρ σ : Ren) (v' : V), canonV n ρ v = some v' → IdOn ρ σ →
      canonV n σ v' = some v'
    | .var x, n, ρ, σ, v', h, hid => by
      simp only [canonV, Option.map_eq_some_iff] at h
      obtain ⟨k, hk, rfl⟩ := h
      simp [canonV, hid x k hk]
    | .unit, n, ρ, σ, v', h, hid | .int _ _, n, ρ, σ, v', h, hid | .str _, n, ρ, σ, v', h, hid => by
      simp only [canonV] at h; cases h; simp [canonV]
    | .pair a b, n, ρ, σ, v', h, hid => by
      simp only [canonV, obind, Option.some.injEq] at h
      obtain ⟨a', ha, b', hb, rfl⟩ := h
      simp [canonV, idemV a n ρ σ a' ha hid, idemV b n ρ σ b' hb hid]
    | .ctor d k arg, n, ρ, σ, v', h, hid => by
      simp only [canonV, obind, Option.some.injEq] at h
      obtain ⟨a', ha, rfl⟩ := h
      simp [canonV, idemV arg n ρ σ a' ha hid]
    | .thunk m b, n, ρ, σ, v', h, hid => by
      simp only [canonV, obind, Option.some.injEq] at h
      obtain ⟨m', hm, rfl⟩ := h
      simp [canonV, idemC m n ρ σ m' hm hid]
  termination_by structural v => v
  theorem idemC : ∀ (m : C) (n : Nat) (ρ σ : Ren) (m' : C), canonC n ρ m = some m' → IdOn ρ σ →
      canonC n σ m' = some m'
    | .ret v, n, ρ, σ, c, h, hid | .force v, n, ρ, σ, c, h, hid | .toStr _ v, n, ρ, σ, c, h, hid
    | .exit v, n, ρ, σ, c, h, hid => by
      simp only [canonC, obind, Option.some.injEq] at h
      obtain ⟨v', hv, rfl⟩ := h
      simp [canonC, idemV v n ρ σ v' hv hid]
    | .bind x a m k, n, ρ, σ, c, h, hid => by
      simp only [canonC, obind, Option.some.injEq] at h
      obtain ⟨m', hm, k', hk, rfl⟩ := h
      simp [canonC, idemC m n ρ σ m' hm hid, idemC k (n + 1) _ _ k' hk (hid.cons x n)]
    | .clet x v m, n, ρ, σ, c, h, hid => by
      simp only [canonC, obind, Option.some.injEq] at h
      obtain ⟨v', hv, m', hm, rfl⟩ := h
      simp [canonC, idemV v n ρ σ v' hv hid, idemC m (n + 1) _ _ m' hm (hid.cons x n)]
    | .letPair x y v m, n, ρ, σ, c, h, hid => by
      simp only [canonC, obind, Option.some.injEq] at h
      obtain ⟨v', hv, m', hm, rfl⟩ := h
      simp [canonC, idemV v n ρ σ v' hv hid,
        idemC m (n + 2) _ _ m' hm ((hid.cons x n).cons y (n + 1))]
    | .fn x _ m, n, ρ, σ, c, h, hid | .fix x _ m, n, ρ, σ, c, h, hid => by
      simp only [canonC, obind, Option.some.injEq] at h
      obtain ⟨m', hm, rfl⟩ := h
      simp [canonC, idemC m (n + 1) _ _ m' hm (hid.cons x n)]
    | .app m v, n, ρ, σ, c, h, hid => by
      simp only [canonC, obind, Option.some.injEq] at h
      obtain ⟨m', hm, v', hv, rfl⟩ := h
      simp [canonC, idemV v n ρ σ v' hv hid, idemC m n _ _ m' hm hid]
    | .case v d arms b, n, ρ, σ, c, h, hid => by
      simp only [canonC, obind, Option.some.injEq] at h
      obtain ⟨v', hv, arms', ha, rfl⟩ := h
      simp [canonC, idemV v n ρ σ v' hv hid, idemArms arms n ρ σ arms' ha hid]
    | .comatch c0 arms, n, ρ, σ, c, h, hid => by
      simp only [canonC, obind, Option.some.injEq] at h
      obtain ⟨arms', ha, rfl⟩ := h
      simp [canonC, idemCoArms arms n ρ σ arms' ha hid]
    | .dtor m k, n, ρ, σ, c, h, hid => by
      simp only [canonC, obind, Option.some.injEq] at h
      obtain ⟨m', hm, rfl⟩ := h
      simp [canonC, idemC m n _ _ m' hm hid]
    | .arith _ _ a b, n, ρ, σ, c, h, hid | .strAppend a b, n, ρ, σ, c, h, hid => by
      simp only [canonC, obind, Option.some.injEq] at h
      obtain ⟨a', ha, b', hb, rfl⟩ := h
      simp [canonC, idemV a n ρ σ a' ha hid, idemV b n ρ σ b' hb hid]
    | .cmp t op a b res yes no, n, ρ, σ, c, h, hid => by
      simp only [canonC, obind, Option.some.injEq] at h
      obtain ⟨a', ha, b', hb, y', hy, n', hn, rfl⟩ := h
      simp [canonC, idemV a n ρ σ a' ha hid, idemV b n ρ σ b' hb hid,
        idemC yes n _ _ y' hy hid, idemC no n _ _ n' hn hid]
    | .writeLine s k, n, ρ, σ, c, h, hid => by
      simp only [canonC, obind, Option.some.injEq] at h
      obtain ⟨s', hs, k', hk, rfl⟩ := h
      simp [canonC, idemV s n ρ σ s' hs hid, idemC k n _ _ k' hk hid]
  termination_by structural m => m
  theorem idemArms : ∀ (arms : List (String × Nat × C)) (n : Nat) (ρ σ : Ren)
      (arms' : List (String × Nat × C)), canonArms n ρ arms = some arms' → IdOn ρ σ →
      canonArms n σ arms' = some arms'
    | [], n, ρ, σ, arms', h, hid => by simp only [canonArms] at h; cases h; simp [canonArms]
    | (k, x, m) :: rest, n, ρ, σ, arms', h, hid => by
      simp only [canonArms, obind, Option.some.injEq] at h
      obtain ⟨m', hm, rest', hr, rfl⟩ := h
      simp [canonArms, idemC m (n + 1) _ _ m' hm (hid.cons x n), idemArms rest n ρ σ rest' hr hid]
  termination_by structural arms => arms
  theorem idemCoArms : ∀ (arms : List (String × C)) (n : Nat) (ρ σ : Ren)
      (arms' : List (String × C)), canonCoArms n ρ arms = some arms' → IdOn ρ σ →
      canonCoArms n σ arms' = some arms'
    | [], n, ρ, σ, arms', h, hid => by simp only [canonCoArms] at h; cases h; simp [canonCoArms]
    | (k, m) :: rest, n, ρ, σ, arms', h, hid => by
      simp only [canonCoArms, obind, Option.some.injEq] at h
      obtain ⟨m', hm, rest', hr, rfl⟩ := h
      simp [canonCoArms, idemC m n _ _ m' hm hid, idemCoArms rest n ρ σ rest' hr hid]
  termination_by structural arms => arms
end

/-- Every name the context binds is renamed. -/
def Dom (Γ : Ctx) (ρ : Ren) : Prop := ∀ x a, Γ.get? x = some a → ∃ k, ρ.get? x = some k

theorem Dom.cons {Γ : Ctx} {ρ : Ren} (h : Dom Γ ρ) (x : Nat) (a : VTy) (n : Nat) :
    Dom ((x, a) :: Γ) ((x, n) :: ρ) := by
  intro y b hy
  rw [Ctx.get?_cons] at hy
  rw [ren_get_cons]
  split
  · exact ⟨n, rfl⟩
  · next hxy => exact h y b (by rwa [if_neg hxy] at hy)

theorem Dom.nil : Dom [] [] := fun _ _ h => nomatch h

-- Recursion on the term with the derivation inverted by `cases` in each case: structural recursion
-- on the mutual derivation itself is several times dearer to check, and matching on the derivation
-- in the patterns nearly twice as dear.
mutual
  theorem typedV {Δ : Sig} : ∀ (v : V) {Γ : Ctx} {a : VTy}, HasTyV Δ Γ v a → ∀ (n : Nat) {ρ : Ren},
      Dom Γ ρ → ∃ v', canonV n ρ v = some v'
    | .var x, _, _, h, n, ρ, hd => by
      cases h with
      | var h =>
        obtain ⟨k, hk⟩ := hd _ _ h
        simp [canonV, hk]
    | .unit, _, _, _, n, ρ, hd => ⟨_, rfl⟩
    | .int t x, _, _, _, n, ρ, hd => ⟨_, rfl⟩
    | .str s, _, _, _, n, ρ, hd => ⟨_, rfl⟩
    | .pair p q, _, _, h, n, ρ, hd => by
      cases h with
      | pair h1 h2 =>
        obtain ⟨_, e1⟩ := typedV p h1 n hd
        obtain ⟨_, e2⟩ := typedV q h2 n hd
        simp [canonV, e1, e2]
    | .ctor _ _ p, _, _, h, n, ρ, hd => by
      cases h with
      | ctor _ h1 =>
        obtain ⟨_, e1⟩ := typedV p h1 n hd
        simp [canonV, e1]
    | .thunk m _, _, _, h, n, ρ, hd => by
      cases h with
      | thunk h1 =>
        obtain ⟨_, e1⟩ := typedC m h1 n hd
        simp [canonV, e1]
  termination_by structural v => v
  theorem typedC {Δ : Sig} : ∀ (m : C) {Γ : Ctx} {b : CTy}, HasTyC Δ Γ m b → ∀ (n : Nat) {ρ : Ren},
      Dom Γ ρ → ∃ m', canonC n ρ m = some m'
    | .ret v, _, _, h, n, ρ, hd | .force v, _, _, h, n, ρ, hd | .toStr _ v, _, _, h, n, ρ, hd
    | .exit v, _, _, h, n, ρ, hd => by
      cases h
      next h1 =>
        obtain ⟨_, e1⟩ := typedV v h1 n hd
        simp [canonC, e1]
    | .bind x _ m k, _, _, h, n, ρ, hd => by
      cases h with
      | bind h1 h2 =>
        obtain ⟨_, e1⟩ := typedC m h1 n hd
        obtain ⟨_, e2⟩ := typedC k h2 (n + 1) (hd.cons _ _ n)
        simp [canonC, e1, e2]
    | .clet x v m, _, _, h, n, ρ, hd => by
      cases h with
      | clet h1 h2 =>
        obtain ⟨_, e1⟩ := typedV v h1 n hd
        obtain ⟨_, e2⟩ := typedC m h2 (n + 1) (hd.cons _ _ n)
        simp [canonC, e1, e2]
    | .letPair x y v m, _, _, h, n, ρ, hd => by
      cases h with
      | letPair h1 h2 =>
        obtain ⟨_, e1⟩ := typedV v h1 n hd
        obtain ⟨_, e2⟩ := typedC m h2 (n + 2) ((hd.cons _ _ n).cons _ _ (n + 1))
        simp [canonC, e1, e2]
    | .fn x _ m, _, _, h, n, ρ, hd | .fix x _ m, _, _, h, n, ρ, hd => by
      cases h
      next h1 =>
        obtain ⟨_, e1⟩ := typedC m h1 (n + 1) (hd.cons _ _ n)
        simp [canonC, e1]
    | .app m v, _, _, h, n, ρ, hd => by
      cases h with
      | app h1 h2 =>
        obtain ⟨_, e1⟩ := typedC m h1 n hd
        obtain ⟨_, e2⟩ := typedV v h2 n hd
        simp [canonC, e1, e2]
    | .case v _ arms _, _, _, h, n, ρ, hd => by
      cases h with
      | case h1 _ _ h2 =>
        obtain ⟨_, e1⟩ := typedV v h1 n hd
        obtain ⟨_, e2⟩ := typedArms arms h2 n hd
        simp [canonC, e1, e2]
    | .comatch _ arms, _, _, h, n, ρ, hd => by
      cases h with
      | comatch _ _ h1 =>
        obtain ⟨_, e1⟩ := typedCoArms arms h1 n hd
        simp [canonC, e1]
    | .dtor m _, _, _, h, n, ρ, hd => by
      cases h with
      | dtor h1 _ =>
        obtain ⟨_, e1⟩ := typedC m h1 n hd
        simp [canonC, e1]
    | .arith _ _ p q, _, _, h, n, ρ, hd | .strAppend p q, _, _, h, n, ρ, hd => by
      cases h
      next h1 h2 =>
        obtain ⟨_, e1⟩ := typedV p h1 n hd
        obtain ⟨_, e2⟩ := typedV q h2 n hd
        simp [canonC, e1, e2]
    | .cmp _ _ p q _ yes no, _, _, h, n, ρ, hd => by
      cases h with
      | cmp _ _ h1 h2 h3 h4 =>
        obtain ⟨_, e1⟩ := typedV p h1 n hd
        obtain ⟨_, e2⟩ := typedV q h2 n hd
        obtain ⟨_, e3⟩ := typedC yes h3 n hd
        obtain ⟨_, e4⟩ := typedC no h4 n hd
        simp [canonC, e1, e2, e3, e4]
    | .writeLine v m, _, _, h, n, ρ, hd => by
      cases h with
      | writeLine h1 h2 =>
        obtain ⟨_, e1⟩ := typedV v h1 n hd
        obtain ⟨_, e2⟩ := typedC m h2 n hd
        simp [canonC, e1, e2]
  termination_by structural m => m
  theorem typedArms {Δ : Sig} : ∀ (arms : List (String × Nat × C)) {Γ : Ctx} {d : Nat} {b : CTy},
      ArmsTy Δ Γ d arms b → ∀ (n : Nat) {ρ : Ren}, Dom Γ ρ →
      ∃ arms', canonArms n ρ arms = some arms'
    | [], _, _, _, _, n, ρ, hd => ⟨_, rfl⟩
    | (_, _, m) :: rest, _, _, _, .cons _ h1 h2, n, ρ, hd => by
      obtain ⟨_, e1⟩ := typedC m h1 (n + 1) (hd.cons _ _ n)
      obtain ⟨_, e2⟩ := typedArms rest h2 n hd
      simp [canonArms, e1, e2]
  termination_by structural arms => arms
  theorem typedCoArms {Δ : Sig} : ∀ (arms : List (String × C)) {Γ : Ctx} {c : Nat},
      CoArmsTy Δ Γ c arms → ∀ (n : Nat) {ρ : Ren}, Dom Γ ρ →
      ∃ arms', canonCoArms n ρ arms = some arms'
    | [], _, _, _, n, ρ, hd => ⟨_, rfl⟩
    | (_, m) :: rest, _, _, .cons _ h1 h2, n, ρ, hd => by
      obtain ⟨_, e1⟩ := typedC m h1 n hd
      obtain ⟨_, e2⟩ := typedCoArms rest h2 n hd
      simp [canonCoArms, e1, e2]
  termination_by structural arms => arms
end

theorem closedV (Δ : Sig) : ∀ (v : V) (Γ : Ctx) (a : VTy) (n : Nat) (ρ : Ren),
    inferV Δ Γ v = .ok a → Dom Γ ρ → ∃ v', canonV n ρ v = some v' :=
  fun v Γ a n _ h hd => typedV v (soundV Δ v Γ a h) n hd

theorem closedC (Δ : Sig) : ∀ (m : C) (Γ : Ctx) (b : CTy) (n : Nat) (ρ : Ren),
    inferC Δ Γ m = .ok b → Dom Γ ρ → ∃ m', canonC n ρ m = some m' :=
  fun m Γ b n _ h hd => typedC m (soundC Δ m Γ b h) n hd

theorem closedArms (Δ : Sig) : ∀ (arms : List (String × Nat × C)) (Γ : Ctx) (d : Nat) (b : CTy)
    (n : Nat) (ρ : Ren), checkArms Δ Γ d arms b = .ok () → Dom Γ ρ →
    ∃ arms', canonArms n ρ arms = some arms' :=
  fun arms Γ d b n _ h hd => typedArms arms (soundArms Δ arms Γ d b h) n hd

theorem closedCoArms (Δ : Sig) : ∀ (arms : List (String × C)) (Γ : Ctx) (c : Nat)
    (n : Nat) (ρ : Ren), checkCoArms Δ Γ c arms = .ok () → Dom Γ ρ →
    ∃ arms', canonCoArms n ρ arms = some arms' :=
  fun arms Γ c n _ h hd => typedCoArms arms (soundCoArms Δ arms Γ c h) n hd

end ZV.ZCore.Sc
