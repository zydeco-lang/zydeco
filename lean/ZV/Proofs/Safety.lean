/-
C01: type safety of accepted ZCore programs on the model of the interpreter.

Typing of run-time values, environments and stacks; a configuration is well typed when it is the
erasure of a typed term in such an environment under such a stack. `step_safe`: from a well-typed
configuration the machine comes to a well-typed configuration again or ends well, never stuck on
the way; this is an invariant of runs (`Safe.step`), so a run that finishes ends well
(`typed_program_good`).
-/
import ZV.Proofs.ZCoreBasic
import ZV.Proofs.ZCoreMachine

namespace ZV.ZCore
open ZV.Numeric ZV.Machine ZV.Host

mutual
  /-- A semantic value has a value type. Products are typed through their flattened fields: the
  first field has the first component's type, the value rebuilt from the remaining fields the
  second component's. -/
  inductive VTyped (Δ : Sig) : SemVal → VTy → Prop
    | triv : VTyped Δ .triv .unit
    | int (t : IntTy) (x : BitVec t.width) : VTyped Δ (.lit (.int t x)) (.int t)
    | str (s : List Char) : VTyped Δ (.lit (.str s)) .str
    | ctor {d k a v} : Δ.ctor? d k = some a → VTyped Δ v a → VTyped Δ (.ctor k v) (.data d)
    | thunk {body env Γ m b} : body = eraseC m → EnvTyped Δ env Γ → HasTyC Δ Γ m b →
        VTyped Δ (.thunk body env) (.thk b)
    | prod {items tail f fs a b} : intoProductFields (.vcons items tail) = some (f :: fs) → fs ≠ [] →
        VTyped Δ f a → VTyped Δ (fromProductFields fs) b → VTyped Δ (.vcons items tail) (.prod a b)
  /-- The environment binds the variables of the context, in the same order, to typed values. -/
  inductive EnvTyped (Δ : Sig) : Env → Ctx → Prop
    | nil : EnvTyped Δ [] []
    | cons {x v a env Γ} : VTyped Δ v a → EnvTyped Δ env Γ → EnvTyped Δ ((x, v) :: env) ((x, a) :: Γ)
end

/-- The stack accepts a computation of the given type, and the whole configuration is an `OS`
program: the empty stack accepts `OS` only. -/
inductive StackTyped (Δ : Sig) : List Frame → CTy → Prop
  | nil : StackTyped Δ [] .os
  | kont {env Γ x a n b rest} : EnvTyped Δ env Γ → HasTyC Δ ((x, a) :: Γ) n b → StackTyped Δ rest b →
      StackTyped Δ (.kont (eraseC n) env (.var x) :: rest) (.ret a)
  | app {v a b rest} : VTyped Δ v a → StackTyped Δ rest b → StackTyped Δ (.app v :: rest) (.arr a b)
  | dtor {c k b rest} : Δ.dtor? c k = some b → StackTyped Δ rest b →
      StackTyped Δ (.dtor k :: rest) (.codata c)

/-- Well-typed configurations: the erasure of a typed term, in an environment of its context, under
a stack that accepts its type. -/
inductive WT (Δ : Sig) : Comp → State → Prop
  | mk {st Γ m b} : EnvTyped Δ st.env Γ → HasTyC Δ Γ m b → StackTyped Δ st.stack b → WT Δ (eraseC m) st

theorem EnvTyped.lookup {Δ : Sig} {x : Nat} {a : VTy} : ∀ {env : Env} {Γ : Ctx}, EnvTyped Δ env Γ →
    Ctx.get? Γ x = some a → ∃ v, Env.get? env x = some v ∧ VTyped Δ v a
  | _, _, .nil, hx => nomatch hx
  | _, _, .cons hv htl, hx =>
    assoc_rel_cons (R := fun a v => VTyped Δ v a) (fun _ _ => htl.lookup) _ hv x a hx

theorem VTyped.pair {Δ : Sig} {va vb : SemVal} {ta tb : VTy} (ha : VTyped Δ va ta) (hb : VTyped Δ vb tb) :
    VTyped Δ (.vcons [va] vb) (.prod ta tb) := by
  have base : (∀ i t, vb ≠ .vcons i t) → VTyped Δ (.vcons [va] vb) (.prod ta tb) := fun hn =>
    .prod (f := va) (fs := [vb]) (intoProductFields_vcons_nonvcons _ _ hn) (by simp) ha hb
  cases hb with
  | @prod items tail f fs a b hf hne hf1 hf2 =>
    refine .prod (f := va) (fs := f :: fs) ?_ (by simp) ha ?_
    · rw [intoProductFields.eq_1, hf]; rfl
    · obtain ⟨i, t, e⟩ := intoProductFields_some_vcons (into_from_of_into hf hne)
      rw [e]
      exact .prod (e ▸ into_from_of_into hf hne) hne hf1 hf2
  | triv | int | str | ctor | thunk => exact base (by intro i t e; cases e)

theorem semV_typed {Δ : Sig} {env : Env} {Γ : Ctx} (he : EnvTyped Δ env Γ) :
    ∀ {v : V} {a : VTy}, HasTyV Δ Γ v a → ∃ sv, semV env v = some sv ∧ VTyped Δ sv a
  | _, _, .var hx => he.lookup hx
  | _, _, .unit => ⟨_, rfl, .triv⟩
  | _, _, .int t x => ⟨_, rfl, .int t x⟩
  | _, _, .str s => ⟨_, rfl, .str s⟩
  | _, _, .pair hp hq => by
    obtain ⟨sp, h1, h2⟩ := semV_typed he hp
    obtain ⟨sq, h3, h4⟩ := semV_typed he hq
    exact ⟨_, by simp only [semV, h1, h3]; rfl, VTyped.pair h2 h4⟩
  | _, _, .ctor hk harg => by
    obtain ⟨sp, h1, h2⟩ := semV_typed he harg
    exact ⟨_, by simp only [semV, h1]; rfl, .ctor hk h2⟩
  | _, _, .thunk hm => ⟨_, rfl, .thunk rfl he hm⟩

/-- How an `OS` configuration may end. -/
def GoodEnd (o : Outcome) : Prop := (∃ code, o = .exit code) ∨ o = .trap

/-- A step result is safe: from it the machine comes to a well-typed configuration again, or ends
with an exit code or the trap. `Safe Δ (.next c st)` is the invariant of reachable configurations
(`Safe.step`): well typed, or on the way to the next well-typed one through a primitive call (its
arguments being pushed, the host's answer) or the return of a value. -/
inductive Safe (Δ : Sig) : StepResult → Prop
  | wt {c st} : WT Δ c st → Safe Δ (.next c st)
  | good {o st} : GoodEnd o → Safe Δ (.done o st)
  | next {c st} : Safe Δ (step c st) → Safe Δ (.next c st)

variable {Δ : Sig}

theorem Safe.backClosed : BackClosed (Safe Δ) := ⟨.next⟩

theorem safe_retSem {st : State} {sv : SemVal} {a : VTy} (hv : VTyped Δ sv a)
    (hs : StackTyped Δ st.stack (.ret a)) : Safe Δ (step (.retSem sv) st) := by
  generalize hst : st.stack = stack at hs
  cases hs with
  | kont he hn hrest =>
    rw [step_retSem_kont hst]
    exact .wt (.mk (.cons hv he) hn hrest)

theorem safe_callSem {st : State} {k : SemVal} {b : CTy} (hk : VTyped Δ k (.thk b))
    (hs : StackTyped Δ st.stack b) : Safe Δ (step (.callSem k []) st) := by
  cases hk with
  | thunk hb he hm =>
    subst hb
    exact .wt (.mk he hm hs)

/-- **Safety of a step**: a well-typed configuration steps to a safe result; it is never stuck and
never returns. -/
theorem step_safe {c : Comp} {st : State} (h : WT Δ c st) : Safe Δ (step c st) := by
  obtain ⟨he, hty, hs⟩ := h
  cases hty with
  | ret hv =>
    obtain ⟨sv, h1, h2⟩ := semV_typed he hv
    rw [step_ret h1]
    exact safe_retSem h2 hs
  | bind hm hn => exact .wt (.mk he hm (.kont he hn hs))
  | clet hv hm =>
    obtain ⟨sv, h1, h2⟩ := semV_typed he hv
    rw [step_clet h1]
    exact .wt (.mk (.cons h2 he) hm hs)
  | letPair hv hm =>
    obtain ⟨sv, h1, h2⟩ := semV_typed he hv
    cases h2 with
    | prod hf hne h4 h5 =>
      rw [step_letPair h1 hf hne]
      exact .wt (.mk (.cons h5 (.cons h4 he)) hm hs)
  | fn hm =>
    generalize hst : st.stack = stack at hs
    cases hs with
    | app hv hrest =>
      rw [eraseC, step_vabs hst]
      exact .wt (.mk (.cons hv he) hm hrest)
  | app hm hv =>
    obtain ⟨sv, h1, h2⟩ := semV_typed he hv
    rw [step_app h1]
    exact .wt (.mk he hm (.app h2 hs))
  | force hv =>
    obtain ⟨sv, h1, h2⟩ := semV_typed he hv
    cases h2 with
    | thunk hb he' hm' =>
      subst hb
      rw [step_force h1]
      exact .wt (.mk he' hm' hs)
  | fix hm =>
    rw [step_fix]
    exact .wt (.mk (.cons (.thunk rfl he (.fix hm)) he) hm hs)
  | case hv hd hcov harms =>
    obtain ⟨sv, h1, h2⟩ := semV_typed he hv
    cases h2 with
    | ctor hk hbody =>
      obtain ⟨x, m, hf, hm⟩ := harms.find hk (hcov _ _ (Sig.ctor?_mem hd hk))
      rw [step_case h1 hf]
      exact .wt (.mk (.cons hbody he) hm hs)
  | comatch hd hcov harms =>
    generalize hst : st.stack = stack at hs
    cases hs with
    | dtor hk hrest =>
      obtain ⟨m, hf, hm⟩ := harms.find hk (hcov _ _ (Sig.dtor?_mem hd hk))
      rw [eraseC, step_comatch hst hf]
      exact .wt (.mk he hm hrest)
  | dtor hm hk => exact .wt (.mk he hm (.dtor hk hs))
  | arith t op ha hb =>
    obtain ⟨_, h1, ⟨⟩⟩ := semV_typed he ha
    obtain ⟨_, h2, ⟨⟩⟩ := semV_typed he hb
    exact prim_arith Safe.backClosed h1 h2 (fun r _ _ => safe_retSem (.int t r) hs)
      (fun _ _ => .good (.inr rfl))
  | cmp t op ha hb hy hn =>
    obtain ⟨_, h1, ⟨⟩⟩ := semV_typed he ha
    obtain ⟨_, h2, ⟨⟩⟩ := semV_typed he hb
    exact prim_cmp Safe.backClosed h1 h2 fun _ =>
      safe_callSem (.thunk rfl he (by split <;> assumption)) hs
  | toStr t ha =>
    obtain ⟨_, h1, ⟨⟩⟩ := semV_typed he ha
    exact prim_toStr Safe.backClosed h1 fun _ => safe_retSem (.str _) hs
  | strAppend ha hb =>
    obtain ⟨_, h1, ⟨⟩⟩ := semV_typed he ha
    obtain ⟨_, h2, ⟨⟩⟩ := semV_typed he hb
    exact prim_strAppend Safe.backClosed h1 h2 fun _ => safe_retSem (.str _) hs
  | writeLine ha hk =>
    obtain ⟨_, h1, ⟨⟩⟩ := semV_typed he ha
    exact prim_writeLine Safe.backClosed h1 fun _ => safe_callSem (.thunk rfl he hk) hs
  | exit ha =>
    obtain ⟨_, h1, ⟨⟩⟩ := semV_typed he ha
    exact prim_exit Safe.backClosed h1 fun _ => .good (.inl ⟨_, rfl⟩)

theorem Safe.step {c : Comp} {st : State} : Safe Δ (.next c st) → Safe Δ (Machine.step c st)
  | .wt h => step_safe h
  | .next h => h

theorem typed_program_good {body : C} (h : HasTyC Δ [] body .os) {n : Nat} {stdin : Host.Bytes}
    {argv : List (List Char)} {o : Outcome} {st : State} {k : Nat}
    (hrun : runProgram n body stdin argv = (some o, st, k)) : GoodEnd o := by
  cases runFrom_preserves Safe.step n 0 (step_safe (.mk .nil h .nil)) hrun with
  | good hg => exact hg

end ZV.ZCore
