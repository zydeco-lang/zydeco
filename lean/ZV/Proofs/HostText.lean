/-
C06 — the part of the host-operation mirror (`ZV/Model/Host.lean`) that needs no case analysis of
`hostOp`: the text functions (scalar-indexed splitting, code points, integer parsing; `splitOnce`
and `takeLine`, both `span (· != x)` at the first occurrence; UTF-8), single operations at a
literal role, and `String.splitOn` on a one-character separator in terms of lists (the numeric
roles are dispatched by `role.splitOn "_"`).
-/
import ZV.Model.Host
import ZV.Proofs.Decimal

namespace ZV.Host
open ZV.Numeric

theorem splitAtScalar_iff (s a b : List Char) (i : Nat) :
    splitAtScalar s i = some (a, b) ↔ (i ≤ scalarLen s ∧ a ++ b = s ∧ scalarLen a = i) := by
  unfold splitAtScalar scalarLen
  constructor
  · intro h
    split at h
    · next hi => cases h; exact ⟨hi, List.take_append_drop i s, List.length_take_of_le hi⟩
    · cases h
  · rintro ⟨hi, rfl, rfl⟩
    simp

theorem fromCodepoint_spec (n : Int) :
    (∀ c, fromCodepoint n = some c → (c.toNat : Int) = n) ∧
    ((fromCodepoint n).isSome = true ↔ (0 ≤ n ∧ n ≤ 0x10FFFF ∧ ¬ (0xD800 ≤ n ∧ n ≤ 0xDFFF))) := by
  unfold fromCodepoint
  split
  · next h =>
    simp only
    split
    · next hv =>
      refine ⟨fun c hc => ?_, ?_⟩
      · cases hc
        have : n.toNat < 4294967296 := by omega
        simp [Char.toNat, Nat.toUInt32, UInt32.toNat_ofNat', Nat.mod_eq_of_lt this]
        omega
      · simp only [Nat.isValidChar] at hv
        simp only [Option.isSome_some, true_iff]
        omega
    · next hv =>
      simp only [Nat.isValidChar] at hv
      exact ⟨nofun, by simp only [Option.isSome_none, Bool.false_eq_true, false_iff]; omega⟩
  · exact ⟨nofun, by simp only [Option.isSome_none, Bool.false_eq_true, false_iff]; omega⟩

theorem parseI64_spec :
  (∀ z : Int, -(2 ^ 63) ≤ z ∧ z ≤ 2 ^ 63 - 1 → Decimal.parseI64 (Decimal.showInt z) = some z) ∧
  (∀ (s : List Char) (z : Int), Decimal.parseI64 s = some z → -(2 ^ 63) ≤ z ∧ z ≤ 2 ^ 63 - 1) ∧
  Decimal.parseI64 [] = none ∧ Decimal.parseI64 ['-'] = none ∧ Decimal.parseI64 ['+'] = none := by
  refine ⟨fun z h => Decimal.parseBounded_showInt _ _ z h, fun _ _ => Decimal.parseBounded_range,
    ?_, ?_, ?_⟩ <;> decide

theorem span_loop_eq {α} (p : α → Bool) (as acc : List α) :
    List.span.loop p as acc = (acc.reverse ++ as.takeWhile p, as.dropWhile p) := by
  induction as generalizing acc with
  | nil => simp [List.span.loop]
  | cons a as ih =>
    unfold List.span.loop
    cases h : p a
    · simp [h]
    · simp [h, ih]

theorem span_eq_takeWhile_dropWhile {α} (p : α → Bool) (as : List α) :
    as.span p = (as.takeWhile p, as.dropWhile p) := by
  simp [List.span, span_loop_eq]

theorem span_ne_append {α} [BEq α] [LawfulBEq α] {x : α} {a : List α} (h : x ∉ a) (r : List α) :
    (a ++ r).span (· != x) = (a ++ r.takeWhile (· != x), r.dropWhile (· != x)) := by
  have ha : ∀ c ∈ a, (c != x) = true := fun c hc => bne_iff_ne.2 fun e => h (e ▸ hc)
  rw [span_eq_takeWhile_dropWhile, List.takeWhile_append_of_pos ha, List.dropWhile_append_of_pos ha]

theorem span_ne_cons {α} [BEq α] [LawfulBEq α] {x : α} {a : List α} (h : x ∉ a) (b : List α) :
    (a ++ x :: b).span (· != x) = (a, x :: b) := by
  simpa using span_ne_append h (x :: b)

theorem span_ne_self {α} [BEq α] [LawfulBEq α] {x : α} {l : List α} (h : x ∉ l) :
    l.span (· != x) = (l, []) := by
  simpa using span_ne_append h []

theorem splitOnce_nil (sep : Char) : splitOnce [] sep = none := rfl

theorem splitOnce_cons (c : Char) (s : List Char) (sep : Char) :
    splitOnce (c :: s) sep =
      if c = sep then some ([], s) else (splitOnce s sep).map fun p => (c :: p.1, p.2) := by
  unfold splitOnce
  simp only [span_eq_takeWhile_dropWhile]
  by_cases h : c = sep
  · subst h; simp
  · have : (c != sep) = true := by simpa using h
    simp only [List.takeWhile_cons, List.dropWhile_cons, this, if_true, h, if_false]
    split <;> simp_all

theorem splitOnce_append {sep : Char} {a : List Char} (h : sep ∉ a) (b : List Char) :
    splitOnce (a ++ sep :: b) sep = some (a, b) := by
  simp [splitOnce, span_ne_cons h]

theorem splitOnce_eq_none (s : List Char) (sep : Char) : splitOnce s sep = none ↔ sep ∉ s := by
  constructor
  · intro h hm
    obtain ⟨a, b, rfl, ha⟩ := List.eq_append_cons_of_mem hm
    rw [splitOnce_append ha] at h; cases h
  · intro h; simp [splitOnce, span_ne_self h]

theorem splitOnce_eq_some (s : List Char) (sep : Char) (a b : List Char)
    (h : splitOnce s sep = some (a, b)) : s = a ++ sep :: b ∧ sep ∉ a := by
  by_cases hm : sep ∈ s
  · obtain ⟨a', b', rfl, ha⟩ := List.eq_append_cons_of_mem hm
    rw [splitOnce_append ha] at h; cases h; exact ⟨rfl, ha⟩
  · rw [(splitOnce_eq_none s sep).2 hm] at h; cases h

theorem takeLine_nil : takeLine [] = ([], []) := rfl

theorem takeLine_cons (a : UInt8) (t : Bytes) :
    takeLine (a :: t) = if a = 10 then ([10], t) else (a :: (takeLine t).1, (takeLine t).2) := by
  unfold takeLine
  simp only [span_eq_takeWhile_dropWhile]
  by_cases h : a = 10
  · subst h; simp
  · have : (a != 10) = true := by simpa using h
    simp only [List.takeWhile_cons, List.dropWhile_cons, this, if_true, h, if_false]
    generalize List.dropWhile (fun x => x != 10) t = d
    cases d <;> simp

theorem takeLine_of_newline (l rest : Bytes) (hl : 10 ∉ l) :
    takeLine (l ++ 10 :: rest) = (l ++ [10], rest) := by
  simp [takeLine, span_ne_cons hl]

theorem takeLine_no_newline (b : Bytes) (hb : 10 ∉ b) : takeLine b = (b, []) := by
  simp [takeLine, span_ne_self hb]

theorem takeLine_append (b : Bytes) : (takeLine b).1 ++ (takeLine b).2 = b := by
  by_cases hm : 10 ∈ b
  · obtain ⟨l, r, rfl, hl⟩ := List.eq_append_cons_of_mem hm
    simp [takeLine_of_newline l r hl]
  · simp [takeLine_no_newline b hm]

theorem takeLine_nil_iff (b : Bytes) : (takeLine b).1 = [] ↔ b = [] := by
  by_cases hm : 10 ∈ b
  · obtain ⟨l, r, rfl, hl⟩ := List.eq_append_cons_of_mem hm
    simp [takeLine_of_newline l r hl]
  · simp [takeLine_no_newline b hm]

theorem stripEol_newline (l : Bytes) :
    stripEol (l ++ [10]) = if l.getLast? = some 13 then l.dropLast else l := by
  simp [stripEol]

theorem stripEol_no_newline (b : Bytes) (hb : 10 ∉ b) : stripEol b = b := by
  have : b.getLast? ≠ some 10 := fun h => hb (List.mem_of_getLast? h)
  simp [stripEol, this]

theorem byteArray_toList_loop (b : ByteArray) (i : Nat) (r : List UInt8) :
    ByteArray.toList.loop b i r = r.reverse ++ b.data.toList.drop i := by
  fun_induction ByteArray.toList.loop b i r with
  | case1 i r h ih =>
    rw [ih]
    have hi' : i < b.data.size := h
    have hi : i < b.data.toList.length := by simpa using hi'
    rw [List.drop_eq_getElem_cons hi]
    simp [ByteArray.get!, getElem!_def]
    rw [Array.getElem?_eq_getElem hi']
  | case2 i r h =>
    have h' : ¬ i < b.data.size := h
    have : b.data.toList.length ≤ i := by simpa using h'
    simp [List.drop_eq_nil_of_le this]

theorem byteArray_toList_eq (b : ByteArray) : b.toList = b.data.toList := by
  simp [ByteArray.toList, byteArray_toList_loop]

theorem byteArray_mk_toList_toArray (b : ByteArray) : ByteArray.mk b.toList.toArray = b := by
  simp [byteArray_toList_eq]

theorem decodeUtf8_encodeUtf8 (s : List Char) : decodeUtf8 (encodeUtf8 s) = some s := by
  simp [decodeUtf8, encodeUtf8, byteArray_mk_toList_toArray]

theorem encodeUtf8_of_decodeUtf8 (b : Bytes) (s : List Char) (h : decodeUtf8 b = some s) :
    encodeUtf8 s = b := by
  unfold decodeUtf8 at h
  unfold encodeUtf8
  rw [Option.map_eq_some_iff] at h
  obtain ⟨a, ha, rfl⟩ := h
  have hs : (ByteArray.mk b.toArray).utf8Decode?.isSome := by simp [ha]
  have := ByteArray.utf8Encode_get_utf8Decode? (b := ByteArray.mk b.toArray) (h := hs)
  simp only [ha, Option.get_some] at this
  simp [this, byteArray_toList_eq]

theorem byteLen_nil : byteLen [] = 0 := rfl
theorem byteLen_cons (c : Char) (cs : List Char) : byteLen (c :: cs) = c.utf8Size + byteLen cs := by
  simp [byteLen]
theorem byteLen_append (a b : List Char) : byteLen (a ++ b) = byteLen a + byteLen b := by
  simp [byteLen]

theorem length_encodeUtf8 (s : List Char) : (encodeUtf8 s).length = byteLen s := by
  simp only [encodeUtf8, byteArray_toList_eq, String.toByteArray_ofList, byteLen]
  induction s with
  | nil => simp
  | cons c s ih =>
    rw [List.utf8Encode_cons, ByteArray.toList_data_append, List.length_append, ih]
    simp [List.utf8Encode_singleton]

theorem byteLen_bounds (s : List Char) : scalarLen s ≤ byteLen s ∧ byteLen s ≤ 4 * scalarLen s := by
  unfold scalarLen byteLen
  induction s with
  | nil => simp
  | cons c s ih =>
    have h1 := Char.utf8Size_pos c
    have h2 := Char.utf8Size_le_four c
    simp only [List.length_cons, List.map_cons, List.sum_cons]
    omega

/-! At a literal role and argument shape `hostOp` computes, so the equation of an arm is `by rfl`
(`simp [hostOp]` does not get through the 39-way match). -/

theorem hostOp_str_split_at (s : List Char) (z : BitVec IntTy.i64.width) (σ : Host) (k₁ k₂ : Nat) :
    hostOp "str_split_at" [.str s, .int .i64 z, .thunk k₁, .thunk k₂] σ =
      (σ, optionalPair ((index? (valI64 z)).bind (splitAtScalar s)) 2 3) := by
  rfl

theorem hostOp_str_get (s : List Char) (z : BitVec IntTy.i64.width) (σ : Host) (k₁ k₂ : Nat) :
    hostOp "str_get" [.str s, .int .i64 z, .thunk k₁, .thunk k₂] σ =
      (σ, optional (((index? (valI64 z)).bind (scalarAt s)).map HV.chr) 2 3) := by
  rfl

theorem hostOp_io_read_line (σ : Host) (h k₁ k₂ k₃ : Nat) :
    hostOp "io_read_line" [.reader h, .thunk k₁, .thunk k₂, .thunk k₃] σ =
      match readWith σ h takeLine with
      | some (got, σ') => if got.isEmpty then (σ', .call 2 []) else (σ', .call 3 [.bytes (stripEol got)])
      | none => (σ, closedError 1) := by rfl

theorem io_read_line_stdin (σ : Host) (k₁ k₂ k₃ : Nat) :
    hostOp "io_read_line" [.reader 0, .thunk k₁, .thunk k₂, .thunk k₃] σ =
      if σ.stdin = [] then (σ, .call 2 [])
      else ({ σ with stdin := (takeLine σ.stdin).2 }, .call 3 [.bytes (stripEol (takeLine σ.stdin).1)]) := by
  rw [hostOp_io_read_line]
  simp only [readWith, if_true]
  by_cases h : σ.stdin = []
  · cases σ; simp_all [takeLine_nil]
  · have : (takeLine σ.stdin).1 ≠ [] := fun e => h ((takeLine_nil_iff _).1 e)
    simp [h, this]

theorem closed_reader_ops (σ : Host) (h : Nat) (h0 : h ≠ 0) (hc : σ.reader? h = none) (k₁ k₂ k₃ : Nat) :
    (hostOp "io_read_all" [.reader h, .thunk k₁, .thunk k₂] σ).2 = closedError 1 ∧
    (hostOp "io_read_line" [.reader h, .thunk k₁, .thunk k₂, .thunk k₃] σ).2 = closedError 1 ∧
    (hostOp "io_close_reader" [.reader h, .thunk k₁, .thunk k₂] σ).2 = closedError 1 := by
  have hr : ∀ take, readWith σ h take = none := by
    intro take; simp [readWith, h0, hc]
  refine ⟨?_, ?_, ?_⟩
  · show (match readWith σ h (fun b => (b, [])) with
      | some (got, σ') => (σ', Out.call 2 [.bytes got])
      | none => (σ, closedError 1)).2 = _
    rw [hr]
  · rw [hostOp_io_read_line, hr]
  · show (if h = 0 then (σ, Out.call 2 [])
      else if (σ.reader? h).isSome then
        ({ σ with readers := σ.readers.filter (·.1 != h) }, .call 2 [])
      else (σ, closedError 1)).2 = _
    simp [h0, hc]

theorem closed_writer_ops (σ : Host) (h : Nat) (h0 : h ≠ 0) (h1 : h ≠ 1) (hc : σ.writer? h = none)
    (b : Bytes) (k₁ k₂ : Nat) :
    (hostOp "io_write_all" [.writer h, .bytes b, .thunk k₁, .thunk k₂] σ).2 = closedError 2 ∧
    (hostOp "io_flush" [.writer h, .thunk k₁, .thunk k₂] σ).2 = closedError 1 ∧
    (hostOp "io_close_writer" [.writer h, .thunk k₁, .thunk k₂] σ).2 = closedError 1 := by
  have hw : ∀ b, writeTo σ h b = none := by
    intro b; simp [writeTo, h0, h1, hc]
  refine ⟨?_, ?_, ?_⟩
  · show (match writeTo σ h b with
      | some σ' => (σ', Out.call 3 [])
      | none => (σ, closedError 2)).2 = _
    rw [hw]
  · show (match writeTo σ h [] with
      | some σ' => (σ', Out.call 2 [])
      | none => (σ, closedError 1)).2 = _
    rw [hw]
  · show (if h = 0 ∨ h = 1 then (σ, Out.call 2 [])
      else if (σ.writer? h).isSome then
        ({ σ with writers := σ.writers.filter (·.1 != h) }, .call 2 [])
      else (σ, closedError 1)).2 = _
    simp [h0, h1, hc]

/-! `String.splitOn` walks byte positions. In `String.ofList (l ++ m ++ r)` at the positions
`byteLen l` and `byteLen (l ++ m)`, the position operations are operations on the three lists
(`get_of_valid` … `extract_of_valid`), so the loop `splitOnAux` for a one-character separator is
`List.splitOnPPrepend` on `r` with `m` as the piece being read. -/

open String (Pos.Raw)

theorem utf8ByteSize_ofList (cs : List Char) : (String.ofList cs).utf8ByteSize = byteLen cs := by
  rw [← length_encodeUtf8, encodeUtf8, byteArray_toList_eq, Array.length_toList]
  rfl

theorem utf8GetAux_of_valid (cs cs' : List Char) (i : Nat) :
    Pos.Raw.utf8GetAux (cs ++ cs') ⟨i⟩ ⟨i + byteLen cs⟩ = cs'.headD default := by
  induction cs generalizing i with
  | nil => cases cs' <;> simp [Pos.Raw.utf8GetAux, byteLen_nil]
  | cons c cs ih =>
    have hp := Char.utf8Size_pos c
    simp only [List.cons_append, Pos.Raw.utf8GetAux, byteLen_cons, Pos.Raw.ext_iff, Pos.Raw.add_char_eq]
    rw [if_neg (by omega), ← Nat.add_assoc]
    exact ih _

theorem get_of_valid (cs cs' : List Char) :
    Pos.Raw.get (String.ofList (cs ++ cs')) ⟨byteLen cs⟩ = cs'.headD default := by
  rw [Pos.Raw.get, String.toList_ofList]
  simpa using utf8GetAux_of_valid cs cs' 0

theorem next_of_valid (cs : List Char) (c : Char) (cs' : List Char) :
    Pos.Raw.next (String.ofList (cs ++ c :: cs')) ⟨byteLen cs⟩ = ⟨byteLen cs + c.utf8Size⟩ := by
  simp only [Pos.Raw.next, get_of_valid, List.headD_cons, Pos.Raw.add_char_eq]

theorem atEnd_of_valid (cs cs' : List Char) :
    Pos.Raw.atEnd (String.ofList (cs ++ cs')) ⟨byteLen cs⟩ = true ↔ cs' = [] := by
  simp only [Pos.Raw.atEnd, utf8ByteSize_ofList, byteLen_append, decide_eq_true_eq]
  cases cs' with
  | nil => simp [byteLen_nil]
  | cons c cs' =>
    have hp := Char.utf8Size_pos c
    simp only [byteLen_cons, reduceCtorEq, iff_false]
    omega

theorem go₂_append_left (s t : List Char) (i : Nat) :
    Pos.Raw.extract.go₂ (s ++ t) ⟨i⟩ ⟨i + byteLen s⟩ = s := by
  induction s generalizing i with
  | nil => cases t <;> simp [Pos.Raw.extract.go₂, byteLen_nil]
  | cons c cs ih =>
    have hp := Char.utf8Size_pos c
    simp only [List.cons_append, Pos.Raw.extract.go₂, byteLen_cons, Pos.Raw.ext_iff, Pos.Raw.add_char_eq]
    rw [if_neg (by omega), ← Nat.add_assoc, ih]

theorem go₁_append_right (s t : List Char) (i : Nat) (e : Pos.Raw) :
    Pos.Raw.extract.go₁ (s ++ t) ⟨i⟩ ⟨i + byteLen s⟩ e = Pos.Raw.extract.go₂ t ⟨i + byteLen s⟩ e := by
  induction s generalizing i with
  | nil =>
    cases t with
    | nil => simp [Pos.Raw.extract.go₁, Pos.Raw.extract.go₂]
    | cons c t => simp only [List.nil_append, Pos.Raw.extract.go₁, byteLen_nil, Nat.add_zero, if_true]
  | cons c cs ih =>
    have hp := Char.utf8Size_pos c
    simp only [List.cons_append, Pos.Raw.extract.go₁, byteLen_cons, Pos.Raw.ext_iff, Pos.Raw.add_char_eq]
    rw [if_neg (by omega), ← Nat.add_assoc]
    exact ih _

theorem extract_of_valid (l m r : List Char) :
    Pos.Raw.extract (String.ofList (l ++ m ++ r)) ⟨byteLen l⟩ ⟨byteLen (l ++ m)⟩ = String.ofList m := by
  rw [List.append_assoc, byteLen_append]
  simp only [Pos.Raw.extract]
  split
  · next h =>
    have : byteLen m = 0 := by omega
    cases m with
    | nil => rfl
    | cons c m => have hp := Char.utf8Size_pos c; rw [byteLen_cons] at this; omega
  · congr 1
    rw [String.toList_ofList]
    have h1 := go₁_append_right l (m ++ r) 0 ⟨byteLen l + byteLen m⟩
    rw [Nat.zero_add] at h1
    exact h1.trans (go₂_append_left m r (byteLen l))

theorem splitOnAux_of_valid (sep : Char) (s : String) (l m r : List Char) (acc : List String) (b i : Nat)
    (hs : s = String.ofList (l ++ m ++ r)) (hb : b = byteLen l) (hi : i = byteLen (l ++ m)) :
    String.splitOnAux s (String.ofList [sep]) ⟨b⟩ ⟨i⟩ 0 acc =
      acc.reverse ++ (List.splitOnPPrepend (· == sep) r m.reverse).map String.ofList := by
  have hsep : Pos.Raw.get (String.ofList [sep]) 0 = sep := get_of_valid [] [sep]
  have hnsep : Pos.Raw.next (String.ofList [sep]) 0 = ⟨sep.utf8Size⟩ := by
    simpa [byteLen_nil] using next_of_valid [] sep []
  have hendsep : Pos.Raw.atEnd (String.ofList [sep]) ⟨sep.utf8Size⟩ = true := by
    simpa [byteLen_cons, byteLen_nil] using (atEnd_of_valid [sep] []).2 rfl
  induction r generalizing s l m acc b i with
  | nil =>
    have hx : Pos.Raw.extract s ⟨b⟩ ⟨i⟩ = String.ofList m := by rw [hs, hb, hi, extract_of_valid]
    rw [String.splitOnAux, if_pos (by rw [hs, hi, atEnd_of_valid])]
    simp only [hx, List.splitOnPPrepend, List.reverse_reverse, List.map_cons, List.map_nil,
      List.reverse_cons]
  | cons c r ih =>
    have hx : Pos.Raw.extract s ⟨b⟩ ⟨i⟩ = String.ofList m := by rw [hs, hb, hi, extract_of_valid]
    have hget : Pos.Raw.get s ⟨i⟩ = c := by rw [hs, hi, get_of_valid]; rfl
    have hnext : Pos.Raw.next s ⟨i⟩ = ⟨i + c.utf8Size⟩ := by rw [hs, hi, next_of_valid]
    have hi' : i + c.utf8Size = byteLen (l ++ m ++ [c]) := by
      simp [hi, byteLen_append, byteLen_cons, byteLen_nil, Nat.add_assoc]
    rw [String.splitOnAux, if_neg (by rw [hs, hi, atEnd_of_valid]; exact List.cons_ne_nil _ _)]
    simp only [hget, hsep, hnsep, hendsep, if_true, hnext]
    by_cases hc : c = sep
    · subst hc
      simp only [beq_self_eq_true, if_true, Pos.Raw.unoffsetBy, Nat.add_sub_cancel, hx]
      rw [ih s (l ++ m ++ [c]) [] (String.ofList m :: acc) _ _ (by simp [hs]) hi' (by simpa using hi')]
      simp [List.splitOnPPrepend]
    · have hb' : (c == sep) = false := by simpa using hc
      simp only [hb', Bool.false_eq_true, if_false, Pos.Raw.unoffsetBy]
      show String.splitOnAux s (String.ofList [sep]) ⟨b⟩ (Pos.Raw.next s ⟨i⟩) 0 acc = _
      rw [hnext, ih s l (m ++ [c]) acc b _ (by simp [hs]) hb (by rw [hi', List.append_assoc])]
      simp [List.splitOnPPrepend, hc]

theorem splitOn_singleton (sep : Char) (s : String) :
    s.splitOn (String.ofList [sep]) = (s.toList.splitOn sep).map String.ofList := by
  unfold String.splitOn
  have hne : (String.ofList [sep] == "") = false := by
    rw [beq_eq_false_iff_ne]; intro h
    have := congrArg String.toList h
    simp at this
  rw [hne]
  simp only [Bool.false_eq_true, if_false]
  have := splitOnAux_of_valid sep s [] [] s.toList [] 0 0 (by simp) rfl rfl
  simpa [List.splitOn_eq_splitOnP] using this

theorem splitOn_underscore (s : String) : s.splitOn "_" = (s.toList.splitOn '_').map String.ofList :=
  splitOn_singleton '_' s

theorem splitOn_append_underscore (x y : String) (h : '_' ∉ x.toList) :
    (x ++ "_" ++ y).splitOn "_" = x :: y.splitOn "_" := by
  have e : (x ++ "_" ++ y).toList = x.toList ++ '_' :: y.toList := by simp
  rw [splitOn_underscore, splitOn_underscore, e, List.splitOn_append_cons_self_of_not_mem h]
  simp

theorem intercalate_splitOn_underscore (s : String) : "_".intercalate (s.splitOn "_") = s := by
  rw [← String.toList_inj, splitOn_underscore]
  simp [Function.comp_def]

theorem parseIntTy_eq_some {ty : String} {t : IntTy} (h : parseIntTy ty = some t) : ty = t.sourceName := by
  unfold parseIntTy at h
  have := List.find?_some h
  exact (by simpa using this : t.sourceName = ty).symm

theorem role_eq_of_splitOn {role ty op : String} {opParts : List String}
    (h : role.splitOn "_" = ty :: opParts) (hop : "_".intercalate opParts = op) (hne : op ≠ "") :
    role = ty ++ "_" ++ op := by
  have := intercalate_splitOn_underscore role
  rw [h] at this
  have hp : opParts ≠ [] := by
    intro e; subst e; simp at hop; exact hne hop
  rw [String.intercalate_cons_of_ne_nil hp, hop] at this
  exact this.symm

end ZV.Host
