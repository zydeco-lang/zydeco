/-
Every finite map of the models (typing contexts, environments of the three machines, the tables of
the dependency graph, the loader's `seen`, ...) is an association list looked up first-match by
`(l.find? (·.1 == k)).map (·.2)`. `assoc` names that function; the models' lookups are `assoc` by
`rfl`, so the lemmas here apply to them as they stand. In front, three facts about duplicate-free lists
that the same developments share.
-/
namespace ZV

theorem nodup_append_singleton {α : Type} {l : List α} {a : α} :
    (l ++ [a]).Nodup ↔ a ∉ l ∧ l.Nodup :=
  (List.perm_append_singleton a l).nodup_iff.trans List.nodup_cons

theorem inj_on_of_nodup_map {α β : Type} {f : α → β} {l : List α} (hn : (l.map f).Nodup) :
    ∀ ⦃x⦄, x ∈ l → ∀ ⦃y⦄, y ∈ l → f x = f y → x = y :=
  have hp : l.Pairwise fun x y => f x ≠ f y := List.pairwise_map.mp hn
  List.Pairwise.forall_of_forall_of_flip (fun _ _ _ => rfl) (hp.imp fun hne he => absurd he hne)
    (hp.imp fun hne he => absurd he.symm hne)

theorem length_le_of_nodup_lt {l : List Nat} {n : Nat} (hn : l.Nodup) (hr : ∀ x ∈ l, x < n) :
    l.length ≤ n := by
  simpa using hn.length_le_of_subset (l₂ := List.range n) fun x hx => List.mem_range.2 (hr x hx)

def assoc {κ β : Type} [BEq κ] (l : List (κ × β)) (k : κ) : Option β :=
  (l.find? (·.1 == k)).map (·.2)

section
variable {κ β : Type} [BEq κ] [LawfulBEq κ] {l : List (κ × β)} {k : κ}

theorem assoc_cons [DecidableEq κ] (p : κ × β) (l : List (κ × β)) (k : κ) :
    assoc (p :: l) k = if p.1 = k then some p.2 else assoc l k := by
  unfold assoc
  by_cases h : p.1 = k
  · rw [List.find?_cons_of_pos (by simpa using h), if_pos h]; rfl
  · rw [List.find?_cons_of_neg (by simpa using h), if_neg h]

theorem assoc_isSome : (assoc l k).isSome = true ↔ k ∈ l.map (·.1) := by
  simp [assoc]

theorem assoc_eq_none : assoc l k = none ↔ k ∉ l.map (·.1) := by
  rw [← assoc_isSome, Option.not_isSome_iff_eq_none]

theorem mem_of_assoc {v : β} (h : assoc l k = some v) : (k, v) ∈ l := by
  obtain ⟨p, hp, rfl⟩ := Option.map_eq_some_iff.mp h
  have hk : p.1 = k := by simpa using List.find?_some hp
  exact hk ▸ List.mem_of_find?_eq_some hp

theorem assoc_of_mem_nodup {v : β} (hn : (l.map (·.1)).Nodup) (h : (k, v) ∈ l) :
    assoc l k = some v := by
  obtain ⟨w, hw⟩ := Option.isSome_iff_exists.mp (assoc_isSome.mpr (List.mem_map.mpr ⟨_, h, rfl⟩))
  rw [hw, (Prod.mk.inj (inj_on_of_nodup_map hn (mem_of_assoc hw) h rfl)).2]

theorem assoc_filter_ne [DecidableEq κ] (l : List (κ × β)) (j k : κ) :
    assoc (l.filter (·.1 != j)) k = if k = j then none else assoc l k := by
  unfold assoc
  rw [List.find?_filter]
  -- the two tests are now conjoined: contradictory if `k = j`, else the second implies the first
  split
  · next hk => rw [List.find?_eq_none.mpr (by simp [hk]), Option.map_none]
  · next hk =>
    congr
    funext p
    by_cases hp : p.1 = k <;> simp [hp, hk]


/-- Entrywise related association lists stay related when related entries are put in front under
the same key (lookup is first-match on both sides, so shadowing agrees). -/
theorem assoc_rel_cons [DecidableEq κ] {α : Type} {R : α → β → Prop} {l : List (κ × α)} {l' : List (κ × β)}
    (h : ∀ y a, assoc l y = some a → ∃ b, assoc l' y = some b ∧ R a b)
    (x : κ) {a : α} {b : β} (hab : R a b) (y : κ) (a' : α) (hy : assoc ((x, a) :: l) y = some a') :
    ∃ b', assoc ((x, b) :: l') y = some b' ∧ R a' b' := by
  rw [assoc_cons] at hy ⊢
  by_cases hxy : x = y
  · rw [if_pos hxy] at hy ⊢; cases hy; exact ⟨b, rfl, hab⟩
  · rw [if_neg hxy] at hy ⊢; exact h y a' hy

end

theorem assoc_append {κ β : Type} [BEq κ] (l l' : List (κ × β)) (k : κ) :
    assoc (l ++ l') k = (assoc l k).or (assoc l' k) := by
  unfold assoc
  rw [List.find?_append, Option.map_or]

end ZV
