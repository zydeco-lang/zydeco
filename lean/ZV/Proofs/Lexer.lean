/-
The two token loops of `ZV/Model/Lexer.lean`, one raw token at a time: a token is emitted iff it is
significant at depth 0, and the depth moves by `stepDepth` (`lexAux_cons`, `lexKnownAux_cons`). From
that, which positions reach the parser (`lexAux_mem_iff`), that they come in order
(`lexAux_sublist`), and that the tooling view reports the same code tokens (`toolCode_toolAux`,
`lexKnownAux_eq_filter`).
-/
import ZV.Model.Lexer

namespace ZV.Lexer

@[simp] theorem depthBefore_zero (r : List Raw) (d : Nat) : depthBefore r d 0 = d := rfl

@[simp] theorem depthBefore_succ (t : Raw) (r : List Raw) (d j : Nat) :
    depthBefore (t :: r) d (j + 1) = depthBefore r (stepDepth d t) j := rfl

theorem lexAux_cons (t : Raw) (r : List Raw) (i d : Nat) :
    lexAux (t :: r) i d = if t = .err then [] else
      (if significant t = true ∧ d = 0 then [i] else []) ++ lexAux r (i + 1) (stepDepth d t) := by
  cases t <;> cases d <;> rfl

theorem lexKnownAux_cons (t : Raw) (r : List Raw) (i d : Nat) :
    lexKnownAux (t :: r) i d = if t = .err then [] else
      (if (significant t = true ∧ d = 0) ∧ t ≠ .unknown then [i] else []) ++
        lexKnownAux r (i + 1) (stepDepth d t) := by
  cases t <;> cases d <;> rfl

/-- What a position contributes: it is emitted iff it is significant and at depth 0. -/
def Emits (r : List Raw) (d j : Nat) : Prop :=
  ∃ t, r[j]? = some t ∧ significant t = true ∧ depthBefore r d j = 0

theorem emits_cons_succ (t : Raw) (r : List Raw) (d j : Nat) :
    Emits (t :: r) d (j + 1) ↔ Emits r (stepDepth d t) j := by
  simp [Emits]

theorem emits_cons_zero (t : Raw) (r : List Raw) (d : Nat) :
    Emits (t :: r) d 0 ↔ significant t = true ∧ d = 0 := by
  simp [Emits]

theorem ex_split (P : Nat → Prop) (i k : Nat) :
    (∃ j, k = i + j ∧ P j) ↔ (k = i ∧ P 0) ∨ (∃ j, k = (i + 1) + j ∧ P (j + 1)) := by
  constructor
  · rintro ⟨j, rfl, hj⟩
    cases j with
    | zero => exact Or.inl ⟨rfl, hj⟩
    | succ j => exact Or.inr ⟨j, by omega, hj⟩
  · rintro (⟨rfl, h⟩ | ⟨j, rfl, hj⟩)
    · exact ⟨0, rfl, h⟩
    · exact ⟨j + 1, by omega, hj⟩

theorem lexAux_mem_iff (r : List Raw) (i d k : Nat) (h : Raw.err ∉ r) :
    k ∈ lexAux r i d ↔ ∃ j, k = i + j ∧ Emits r d j := by
  induction r generalizing i d with
  | nil => simp [lexAux, Emits]
  | cons t r ih =>
    rw [List.mem_cons, not_or] at h
    rw [ex_split, lexAux_cons, if_neg (Ne.symm h.1), List.mem_append, ih _ _ h.2]
    simp only [emits_cons_succ, emits_cons_zero]
    split <;> simp [*]

theorem lexAux_sublist (r : List Raw) (i d : Nat) :
    (lexAux r i d).Sublist (List.range' i r.length) := by
  induction r generalizing i d with
  | nil => exact .slnil
  | cons t r ih =>
    rw [lexAux_cons, List.length_cons, List.range'_succ]
    split
    · exact List.nil_sublist _
    · split
      · exact (ih _ _).cons_cons i
      · exact (ih _ _).cons i

theorem toolCode_toolAux (r : List Raw) (i d : Nat) (start : Option Nat) (h : Raw.err ∉ r) :
    toolCode (toolAux r i d start) = lexKnownAux r i d := by
  induction r generalizing i d start with
  | nil => cases start <;> simp [toolAux, toolCode, lexKnownAux]
  | cons t r ih =>
    have hr : Raw.err ∉ r := fun hm => h (List.mem_cons_of_mem _ hm)
    cases t with
    | err => exact absurd (List.mem_cons_self) h
    | commentClose =>
      by_cases hd : d > 0
      · have hne : d ≠ 0 := by omega
        by_cases h1 : d - 1 = 0
        · cases start <;> simp [toolAux, lexKnownAux, hd, hne, h1, toolCode, ih _ _ _ hr]
        · simp [toolAux, lexKnownAux, hd, hne, h1, ih _ _ _ hr]
      · obtain rfl : d = 0 := by omega
        simp [toolAux, lexKnownAux, classified, toolCode, ih _ _ _ hr]
    | _ =>
      by_cases hd : d > 0
      · simp [toolAux, lexKnownAux, hd, ih _ _ _ hr]
      · obtain rfl : d = 0 := by omega
        simp [toolAux, lexKnownAux, classified, toolCode, ih _ _ _ hr]

theorem lexKnownAux_eq_filter (full r : List Raw) (i d : Nat)
    (hfull : ∀ j, full[i + j]? = r[j]?) :
    lexKnownAux r i d = (lexAux r i d).filter (fun k => full[k]? != some Raw.unknown) := by
  induction r generalizing i d with
  | nil => rfl
  | cons t r ih =>
    have hnext : ∀ j, full[i + 1 + j]? = r[j]? := fun j => by
      simpa [Nat.add_assoc, Nat.add_comm 1 j] using hfull (j + 1)
    have hhead : full[i]? = some t := by simpa using hfull 0
    rw [lexKnownAux_cons, lexAux_cons]
    split
    · rfl
    · rw [List.filter_append, ← ih _ _ hnext]
      congr 1
      by_cases hs : significant t = true ∧ d = 0
      · rw [if_pos hs, List.filter_cons, hhead]
        by_cases hu : t = .unknown
        · rw [if_neg (fun h => h.2 hu), hu]; rfl
        · rw [if_pos ⟨hs, hu⟩, if_pos (bne_iff_ne.2 fun h => hu (Option.some.inj h))]; rfl
      · rw [if_neg hs, if_neg (fun h => hs h.1)]; rfl

end ZV.Lexer
