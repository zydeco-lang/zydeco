/-
The arm loop of the mirrored interpreter's `match` transition (`eval.rs`, `Computation::Match`):
first-match semantics.
-/
import ZV.Model.Machine

namespace ZV.Machine

theorem go_first (st : State) (sv : SemVal) (env env' : Env) (p : Pat) (tail : Comp)
    (rest : List (Pat × Comp)) (h : assign p sv env = .ok env') :
    step.go st sv env ((p, tail) :: rest) = .next tail { st with env := env' } := by
  simp only [step.go, h]

/-- An arm whose pattern does not match is skipped, and the next is tried in the environment from
before it (`Assigned.fail` carries none). -/
theorem go_skip (st : State) (sv : SemVal) (env : Env) (p : Pat) (tail : Comp)
    (rest : List (Pat × Comp)) (h : assign p sv env = .fail) :
    step.go st sv env ((p, tail) :: rest) = step.go st sv env rest := by
  simp only [step.go, h]

theorem go_nil (st : State) (sv : SemVal) (env : Env) :
    step.go st sv env [] = .done (.stuck .noArm) { st with env } := by
  simp only [step.go]

theorem match_takes_first (st : State) (scrut : Val) (sv : SemVal) (env' : Env)
    (before rest : List (Pat × Comp)) (p : Pat) (tail : Comp)
    (hv : evalV (valFuel scrut) st.env scrut = .ok sv)
    (hb : ∀ q ∈ before, assign q.1 sv st.env = .fail)
    (hp : assign p sv st.env = .ok env') :
    step (.cmatch scrut (before ++ (p, tail) :: rest)) st = .next tail { st with env := env' } := by
  rw [show step (.cmatch scrut (before ++ (p, tail) :: rest)) st
      = step.go st sv st.env (before ++ (p, tail) :: rest) by simp only [step, hv]]
  induction before with
  | nil => exact go_first st sv st.env env' p tail rest hp
  | cons q qs ih =>
    rw [List.cons_append, go_skip st sv st.env q.1 q.2 _ (hb q List.mem_cons_self)]
    exact ih fun r hr => hb r (List.mem_cons_of_mem _ hr)

end ZV.Machine
