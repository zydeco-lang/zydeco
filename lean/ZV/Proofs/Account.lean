/-
The accounting oracle (`ZV/Model/Account.lean`): every pass of `normalize` keeps the sequence of
comments (`comments_normalize`), so the verdict `ok` means the same comments in the same order
(`accounts_ok_comments`). Comment capture (`ZV/Model/Capture.lean`) one comment at a time:
`capture_cons`.
-/
import ZV.Props.C13Statements

namespace ZV.Account
open ZV.Props.C13.Statement

theorem firstDiff_none_iff_pf : firstDiff_none_iff := by
  intro a b i
  fun_induction firstDiff a b i with
  | case1 => simp
  | case2 as b bs i ih => simp [ih]
  | case3 a as b bs i h => simp [h]
  | case4 t x i h1 h2 =>
    refine ⟨nofun, fun h => ?_⟩
    subst h
    cases t with
    | nil => exact (h1 rfl rfl).elim
    | cons a as => exact (h2 a as a as rfl rfl).elim

theorem firstDiff_self (l : List Item) (i : Nat) : firstDiff l l i = none :=
  (firstDiff_none_iff_pf l l i).mpr rfl

theorem firstBack_self (l : List Nat) (i : Nat) : firstBack l l i = none := by
  induction l generalizing i with
  | nil => simp [firstBack]
  | cons a as ih => simp [firstBack, ih]

theorem accounts_ok_iff_pf : accounts_ok_iff := by
  intro inp out
  -- each equality is the corresponding `firstDiff` test; then follow the three matches
  simp only [← firstDiff_none_iff_pf _ _ 0, accounts]
  split
  · simp [*]
  · split
    · simp [*]
    · split <;> simp [*]

theorem accounts_refl_pf : accounts_refl := by
  intro l
  rw [accounts_ok_iff_pf]
  exact ⟨rfl, rfl, firstBack_self _ _⟩

theorem essential_append (l₁ l₂ : List Item) :
    essential (l₁ ++ l₂) = essential l₁ ++ essential l₂ := by
  fun_induction essential l₁ with
  | case1 => simp
  | case2 t rest ih | case3 t rest ih => simp [essential, ih]
  | case4 x rest h1 h2 ih =>
    rw [List.cons_append, essential.eq_4 x _ h1 h2, ih, List.cons_append]

theorem essential_ignores_layout_tokens_pf : essential_ignores_layout_tokens := fun l₁ l₂ t => by
  simp only [essential_append, essential, and_self]

theorem spanComments_append (l : List Item) :
    (spanComments l).1 ++ (spanComments l).2 = l := by
  fun_induction spanComments l with
  | case2 x rest _ cs tail h ih => rw [h] at ih; exact congrArg (x :: ·) ih
  | _ => rfl

theorem spanTrail_append (l : List Item) : (spanTrail l).1 ++ (spanTrail l).2 = l := by
  fun_induction spanTrail l with
  | case2 x rest _ cs tail h ih => rw [h] at ih; exact congrArg (x :: ·) ih
  | _ => rfl

@[simp] theorem comments_cons (x : Item) (l : List Item) :
    comments (x :: l) = if x.isComment then x :: comments l else comments l := List.filter_cons

@[simp] theorem comments_append (l₁ l₂ : List Item) :
    comments (l₁ ++ l₂) = comments l₁ ++ comments l₂ := List.filter_append ..

theorem comments_of_split {rest cs tail : List Item} {x : Item} (hx : x.isComment = false)
    (e : cs ++ x :: tail = rest) : comments rest = comments cs ++ comments tail := by
  simp [← e, hx]

theorem comments_markUnits (l : List Item) : comments (markUnits l) = comments l := by
  fun_induction markUnits l with
  | case1 => rfl
  | case2 rest cs tail h ih => simp [ih, Item.isComment, comments_of_split rfl (h ▸ spanComments_append rest)]
  | case3 rest h ih | case4 x rest h ih => simp [ih]

theorem comments_collapsePuns (l : List Item) : comments (collapsePuns l) = comments l := by
  fun_induction collapsePuns l with
  | case1 => rfl
  | case2 a rest cs tail h hf ih | case3 a rest cs tail h hf ih =>
    simp [ih, Item.isComment, comments_of_split rfl (h ▸ spanTrail_append rest)]
  | case4 a rest h ih => simp [ih, Item.isComment]
  | case5 x rest h ih => simp [ih]

theorem comments_essential (l : List Item) : comments (essential l) = comments l := by
  fun_induction essential l with
  | case1 => rfl
  | case2 t rest ih | case3 t rest ih => simp [ih, Item.isComment]
  | case4 x rest h1 h2 ih => simp [ih]

theorem isComment_canonComment (x : Item) : (canonComment x).isComment = x.isComment := by
  unfold canonComment
  split <;> rfl

theorem comments_map_canonComment (l : List Item) :
    comments (l.map canonComment) = (comments l).map canonComment := by
  induction l with
  | nil => rfl
  | cons x rest ih => simp only [List.map_cons, comments_cons, isComment_canonComment, ih]; split <;> rfl

theorem comments_normalize (l : List Item) :
    comments (normalize l) = (comments l).map canonComment := by
  rw [normalize, comments_map_canonComment, comments_essential, comments_collapsePuns,
    comments_markUnits]

/-- `ok` in terms of the raw streams: the same comments in the same order, up to the layout inside
a comment that `canonComment` removes. So a dropped, duplicated, altered or reordered comment is
rejected. -/
theorem accounts_ok_comments {inp out : List Item} (h : accounts inp out = .ok) :
    (comments inp).map canonComment = (comments out).map canonComment := by
  rw [← comments_normalize, ← comments_normalize]
  exact ((accounts_ok_iff_pf inp out).mp h).1

theorem dropped_comment_detected_pf : dropped_comment_detected := by
  intro l₁ l₂ k t h
  have := congrArg List.length (accounts_ok_comments h)
  simp [Item.isComment] at this

theorem duplicated_comment_detected_pf : duplicated_comment_detected := by
  intro l₁ l₂ k t h
  have := congrArg List.length (accounts_ok_comments h)
  simp [Item.isComment] at this

def nc (l : List Item) : Nat := l.countP Item.isComment

@[simp] theorem nc_nil : nc [] = 0 := rfl

theorem nc_eq_length (l : List Item) : nc l = (comments l).length := List.countP_eq_length_filter

theorem nc_of_span (rest cs tail : List Item) (x : Item) (hx : x.isComment = false)
    (h : spanComments rest = (cs, x :: tail)) : nc rest = nc cs + nc tail := by
  rw [nc_eq_length, nc_eq_length, nc_eq_length, comments_of_split hx (h ▸ spanComments_append rest),
    List.length_append]

end ZV.Account

namespace ZV.Capture
open ZV.Props.C13.Statement

theorem minBy_eq_none {lt : Entity → Entity → Bool} {l : List Entity}
    (h : minBy lt l = none) : l = [] := by
  fun_induction minBy lt l with
  | case1 => rfl
  | _ => cases h

theorem leadingLt_start_le {a b : Entity} (h : leadingLt a b = true) : a.start ≤ b.start := by
  unfold leadingLt at h
  simp only [Bool.or_eq_true, Bool.and_eq_true, decide_eq_true_eq, beq_iff_eq] at h
  omega

theorem start_le_of_not_leadingLt {a b : Entity} (h : ¬ leadingLt a b = true) :
    b.start ≤ a.start := by
  unfold leadingLt at h
  simp only [Bool.or_eq_true, Bool.and_eq_true, decide_eq_true_eq, beq_iff_eq] at h
  omega

theorem minBy_leadingLt_spec {l : List Entity} {m : Entity} (h : minBy leadingLt l = some m) :
    m ∈ l ∧ ∀ x ∈ l, m.start ≤ x.start := by
  fun_induction minBy leadingLt l generalizing m with
  | case1 => cases h
  | case2 e rest hnone =>
    cases h
    simp [minBy_eq_none hnone]
  | case3 e rest m' hsome hlt ih =>
    cases h
    obtain ⟨hmem, hmin⟩ := ih hsome
    exact ⟨List.mem_cons_of_mem _ hmem, List.forall_mem_cons.2 ⟨leadingLt_start_le hlt, hmin⟩⟩
  | case4 e rest m' hsome hlt ih =>
    cases h
    obtain ⟨_, hmin⟩ := ih hsome
    exact ⟨List.mem_cons_self, List.forall_mem_cons.2 ⟨Nat.le_refl _,
      fun x hx => Nat.le_trans (start_le_of_not_leadingLt hlt) (hmin x hx)⟩⟩

theorem leadingAnchor_spec {es : List Entity} {c : Comment} {e : Entity}
    (h : leadingAnchor es c = some e) :
    e ∈ es ∧ c.stop ≤ e.start ∧ ∀ e' ∈ es, c.stop ≤ e'.start → e.start ≤ e'.start := by
  unfold leadingAnchor at h
  obtain ⟨hmem, hmin⟩ := minBy_leadingLt_spec h
  rw [List.mem_filter] at hmem
  refine ⟨hmem.1, by simpa using hmem.2, ?_⟩
  intro e' he' hle
  exact hmin e' (List.mem_filter.mpr ⟨he', by simpa using hle⟩)

/-- `capture` walks the comments: the first one without an anchor ends the leading part; it and
everything after it is trailing. -/
theorem capture_cons (es : List Entity) (c : Comment) (rest : List Comment) :
    capture es (c :: rest) = match leadingAnchor es c with
      | none => ⟨[], c :: rest, false⟩
      | some e => ⟨(e, c) :: (capture es rest).leading, (capture es rest).trailing,
          (capture es rest).panicked⟩ := by
  cases h : leadingAnchor es c <;> simp [capture, firstTrailing, h]

theorem capture_partition_pf : capture_partition := by
  intro es cs
  induction cs with
  | nil => exact ⟨rfl, rfl⟩
  | cons c rest ih =>
    rw [capture_cons]
    cases leadingAnchor es c with
    | none => exact ⟨rfl, rfl⟩
    | some e => exact ⟨ih.1, congrArg (c :: ·) ih.2⟩

theorem leading_anchor_is_next_pf : leading_anchor_is_next := by
  intro es cs e c h
  induction cs with
  | nil => cases h
  | cons c' rest ih =>
    rw [capture_cons] at h
    cases ha : leadingAnchor es c' with
    | none => rw [ha] at h; cases h
    | some e' =>
      rw [ha] at h
      rcases List.mem_cons.mp h with heq | h
      · cases heq; exact leadingAnchor_spec ha
      · exact ih h

end ZV.Capture

#print axioms ZV.Account.firstDiff_none_iff_pf
#print axioms ZV.Account.accounts_refl_pf
#print axioms ZV.Account.accounts_ok_iff_pf
#print axioms ZV.Account.essential_ignores_layout_tokens_pf
#print axioms ZV.Account.dropped_comment_detected_pf
#print axioms ZV.Account.duplicated_comment_detected_pf
#print axioms ZV.Capture.capture_partition_pf
#print axioms ZV.Capture.leading_anchor_is_next_pf
