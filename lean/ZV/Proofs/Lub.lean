/-
C03, type equality under binders and of structural declarations: the level discipline of `lubEq`
with its by-name comparison of arms decides equality of the nameless forms (`lubEq_iff_toDB`), for
types whose declarations repeat no name (`WF`); no naming discipline for variables is needed.
Three observations carry the proof.
(1) The context reached below a stack of binders is a function of that stack (`mk`, `ctxOf`), and
looking an identity up in it returns the level of its innermost occurrence, which is what
`List.idxOf?` computes for `toDB` (`lookup_mk`).
(2) A declaration without repeated names is a finite map from names to types. Its sorted nameless
form is a normal form of that map (`toDBArms_eq_iff`), and the loop of the code says that two such
maps have the same names and agree name by name: equal numbers of arms, every left name found on
the right and no repeated names give the same set of names (`arms_loop_iff`).
(3) The comparison and equality of nameless forms both hold only between types with the same head
constructor (`head_mismatch`), so the induction argues about the twelve pairs of equal constructors.
-/
import ZV.Props.C03LubStatements
import ZV.Proofs.Assoc

namespace ZV.Lub

/-- the identity-to-level map reached under a stack of binders (innermost first) -/
def mk : List Nat → List (Nat × Nat)
  | [] => []
  | x :: env => (x, env.length) :: mk env

/-- the context reached under two stacks of binders -/
def ctxOf (envL envR : List Nat) : Ctx :=
  { level := envL.length, lhs := mk envL, rhs := mk envR }

theorem ctxOf_nil : ctxOf [] [] = {} := rfl

theorem ctxOf_insert (envL envR : List Nat) (h : envL.length = envR.length) (x y : Nat) :
    (ctxOf envL envR).insert x y = ctxOf (x :: envL) (y :: envR) := by
  simp [ctxOf, Ctx.insert, mk, h]

theorem lookup_mk (env : List Nat) (x : Nat) :
    lookup (mk env) x = (env.idxOf? x).map (fun i => env.length - 1 - i) := by
  induction env with
  | nil => rfl
  | cons y env ih =>
    unfold lookup at ih ⊢
    rw [mk, List.find?_cons, List.idxOf?_cons]
    cases y == x
    · simp only [ih, Bool.false_eq_true, if_false, Option.map_map]
      congr 1
      funext i
      simp only [Function.comp, List.length_cons]
      omega
    · simp

theorem var_case (envL envR : List Nat) (h : envL.length = envR.length) (a b : Nat) :
    lubEq (ctxOf envL envR) (.var a) (.var b) = true ↔ toDB envL (.var a) = toDB envR (.var b) := by
  unfold lubEq toDB
  simp only [ctxOf, lookup_mk]
  cases hl : envL.idxOf? a with
  | none => cases hr : envR.idxOf? b <;> simp
  | some i =>
    cases hr : envR.idxOf? b with
    | none => simp
    | some j =>
      obtain ⟨_, _⟩ := List.idxOf?_eq_some_iff.1 hl
      obtain ⟨_, _⟩ := List.idxOf?_eq_some_iff.1 hr
      simp only [Option.map_some, beq_iff_eq, DB.bound.injEq]
      omega

theorem Arms.names_eq_map : ∀ as : Arms, as.names = as.toList.map (·.1)
  | .nil => rfl
  | .cons n _ rest => congrArg (n :: ·) (Arms.names_eq_map rest)

theorem Arms.length_eq : ∀ as : Arms, as.length = as.names.length
  | .nil => rfl
  | .cons _ _ rest => congrArg (· + 1) (Arms.length_eq rest)

theorem Arms.get_eq_assoc : ∀ (as : Arms) (m : Nat), as.get m = assoc as.toList m
  | .nil, _ => rfl
  | .cons n t rest, m => by
    rw [Arms.get, Arms.toList, assoc_cons, Arms.get_eq_assoc rest m]
    -- `Arms.get` asks whether `m = n`, `assoc` whether `n = m`
    simp only [eq_comm]

theorem Arms.get_eq_none (as : Arms) (m : Nat) : as.get m = none ↔ m ∉ as.names := by
  rw [Arms.get_eq_assoc, Arms.names_eq_map]
  exact assoc_eq_none

theorem Arms.mem_of_get (as : Arms) (m : Nat) (t : Ty) (h : as.get m = some t) : (m, t) ∈ as.toList :=
  mem_of_assoc (Arms.get_eq_assoc as m ▸ h)

theorem Arms.get_of_mem (as : Arms) (m : Nat) (t : Ty) (hn : as.names.Nodup) (hm : (m, t) ∈ as.toList) :
    as.get m = some t := by
  rw [Arms.get_eq_assoc]
  exact assoc_of_mem_nodup (Arms.names_eq_map as ▸ hn) hm

theorem Arms.mem_names_of_mem {as : Arms} {m : Nat} {t : Ty} (h : (m, t) ∈ as.toList) : m ∈ as.names := by
  rw [Arms.names_eq_map]
  exact List.mem_map.2 ⟨(m, t), h, rfl⟩

theorem Arms.mem_names_of_get {as : Arms} {m : Nat} {t : Ty} (h : as.get m = some t) : m ∈ as.names :=
  Arms.mem_names_of_mem (Arms.mem_of_get as m t h)

theorem Arms.toList_ofList : ∀ l : List (Nat × Ty), (Arms.ofList l).toList = l
  | [] => rfl
  | (n, t) :: rest => congrArg ((n, t) :: ·) (Arms.toList_ofList rest)

theorem WFArms_iff : ∀ as : Arms, WFArms as = true ↔ as.names.Nodup ∧ ∀ p ∈ as.toList, WF p.2 = true
  | .nil => by simp [WFArms, Arms.names, Arms.toList]
  | .cons n t rest => by
    simp [WFArms, Arms.names, Arms.toList, WFArms_iff rest, and_assoc, and_left_comm]

theorem WF_of_get {as : Arms} {m : Nat} {t : Ty} (h : WFArms as = true) (hg : as.get m = some t) :
    WF t = true :=
  ((WFArms_iff as).1 h).2 (m, t) (Arms.mem_of_get as m t hg)

theorem DBArms.get_insert (n : Nat) (d : DB) : ∀ (ds : DBArms) (m : Nat),
    (DBArms.insert n d ds).get m = if m = n then some d else ds.get m
  | .nil, m => by simp [DBArms.insert, DBArms.get]
  | .cons k e rest, m => by
    have ih := DBArms.get_insert n d rest m
    simp only [DBArms.insert]
    split
    · simp [DBArms.get]
    · next hle =>
      simp only [DBArms.get, ih]
      by_cases h1 : m = k
      · subst h1
        simp [show m ≠ n by omega]
      · simp [h1]

theorem DBArms.mem_names_insert (n : Nat) (d : DB) : ∀ (ds : DBArms) (m : Nat),
    m ∈ (DBArms.insert n d ds).names ↔ m = n ∨ m ∈ ds.names
  | .nil, m => by simp [DBArms.insert, DBArms.names]
  | .cons k e rest, m => by
    have ih := DBArms.mem_names_insert n d rest m
    simp only [DBArms.insert]
    split
    · simp [DBArms.names]
    · simp only [DBArms.names, List.mem_cons, ih, or_left_comm]

theorem DBArms.get_eq_none : ∀ (ds : DBArms) (m : Nat), ds.get m = none ↔ m ∉ ds.names
  | .nil, m => by simp [DBArms.get, DBArms.names]
  | .cons n t rest, m => by
    have ih := DBArms.get_eq_none rest m
    simp only [DBArms.get, DBArms.names]
    split <;> simp_all

theorem DBArms.sorted_insert (n : Nat) (d : DB) : ∀ (ds : DBArms), ds.names.Pairwise (· < ·) →
    n ∉ ds.names → (DBArms.insert n d ds).names.Pairwise (· < ·)
  | .nil => by simp [DBArms.insert, DBArms.names]
  | .cons k e rest => by
    intro hs hn
    simp only [DBArms.names, List.pairwise_cons, List.mem_cons, not_or] at hs hn
    have ih := DBArms.sorted_insert n d rest hs.2 hn.2
    simp only [DBArms.insert]
    split
    · simp only [DBArms.names, List.pairwise_cons, List.mem_cons]
      refine ⟨?_, hs⟩
      rintro m (rfl | hm)
      · omega
      · have := hs.1 m hm; omega
    · simp only [DBArms.names, List.pairwise_cons, DBArms.mem_names_insert]
      refine ⟨?_, ih⟩
      rintro m (rfl | hm)
      · omega
      · exact hs.1 m hm

theorem DBArms.mem_names_of_get {ds : DBArms} {m : Nat} {d : DB} (h : ds.get m = some d) :
    m ∈ ds.names :=
  Classical.not_not.1 fun hc => by rw [(DBArms.get_eq_none ds m).2 hc] at h; cases h

theorem DBArms.ext : ∀ (ds es : DBArms), ds.names.Pairwise (· < ·) → es.names.Pairwise (· < ·) →
    (∀ m, ds.get m = es.get m) → ds = es
  | .nil, .nil, _, _, _ => rfl
  | .nil, .cons k e s, _, _, h => by simpa [DBArms.get] using h k
  | .cons n d r, .nil, _, _, h => by simpa [DBArms.get] using h n
  | .cons n d r, .cons k e s, hd, he, h => by
    simp only [DBArms.names, List.pairwise_cons] at hd he
    have hnk : n = k := by
      -- were the first names different, each would occur further down on the other side
      apply Classical.byContradiction
      intro hne
      have h1 := h n
      have h2 := h k
      simp only [DBArms.get, if_true, if_neg hne, if_neg (Ne.symm hne)] at h1 h2
      have := he.1 n (DBArms.mem_names_of_get h1.symm)
      have := hd.1 k (DBArms.mem_names_of_get h2)
      omega
    subst hnk
    have hde : d = e := by simpa [DBArms.get] using h n
    subst hde
    rw [DBArms.ext r s hd.2 he.2 fun m => ?_]
    by_cases hm : m = n
    · rw [hm, (DBArms.get_eq_none r n).2 fun hm => Nat.lt_irrefl _ (hd.1 n hm),
        (DBArms.get_eq_none s n).2 fun hm => Nat.lt_irrefl _ (he.1 n hm)]
    · simpa [DBArms.get, hm] using h m

theorem get_toDBArms (env : List Nat) : ∀ (as : Arms) (m : Nat),
    (toDBArms env as).get m = (as.get m).map (toDB env)
  | .nil, m => by simp [toDBArms, DBArms.get, Arms.get]
  | .cons n t rest, m => by
    have ih := get_toDBArms env rest m
    simp only [toDBArms, DBArms.get_insert, Arms.get, ih]
    split <;> simp

theorem mem_names_toDBArms (env : List Nat) : ∀ (as : Arms) (m : Nat),
    m ∈ (toDBArms env as).names ↔ m ∈ as.names
  | .nil, m => by simp [toDBArms, DBArms.names, Arms.names]
  | .cons n t rest, m => by
    simp [toDBArms, DBArms.mem_names_insert, Arms.names, mem_names_toDBArms env rest m]

theorem sorted_toDBArms (env : List Nat) : ∀ (as : Arms), as.names.Nodup →
    (toDBArms env as).names.Pairwise (· < ·)
  | .nil => by simp [toDBArms, DBArms.names]
  | .cons n t rest => by
    intro hn
    simp only [Arms.names, List.nodup_cons] at hn
    simp only [toDBArms]
    apply DBArms.sorted_insert _ _ _ (sorted_toDBArms env rest hn.2)
    rw [mem_names_toDBArms]
    exact hn.1

/-- The sorted nameless form is a normal form of the finite map that a declaration without repeated
names stands for.  The right side is that of `alpha_decl_spec`; what the loop of the code
establishes and what a permutation of arms preserves are stated in it too. -/
theorem toDBArms_eq_iff (envL envR : List Nat) (as bs : Arms)
    (ha : as.names.Nodup) (hb : bs.names.Nodup) :
    toDBArms envL as = toDBArms envR bs ↔
      (∀ n, n ∈ as.names ↔ n ∈ bs.names) ∧
      (∀ n t u, as.get n = some t → bs.get n = some u → toDB envL t = toDB envR u) := by
  constructor
  · intro h
    refine ⟨fun n => ?_, fun n t u ht hu => ?_⟩
    · rw [← mem_names_toDBArms envL, h, mem_names_toDBArms]
    · have := get_toDBArms envL as n
      rw [h, get_toDBArms, ht, hu] at this
      simpa using this.symm
  · rintro ⟨hn, hp⟩
    apply DBArms.ext _ _ (sorted_toDBArms envL as ha) (sorted_toDBArms envR bs hb)
    intro m
    rw [get_toDBArms, get_toDBArms]
    cases h1 : as.get m with
    | none =>
      rw [(Arms.get_eq_none bs m).2 fun hx => (Arms.get_eq_none as m).1 h1 ((hn m).2 hx)]
      rfl
    | some t =>
      cases h2 : bs.get m with
      | none => exact absurd ((hn m).1 (Arms.mem_names_of_get h1)) ((Arms.get_eq_none bs m).1 h2)
      | some u => simp [hp m t u h1 h2]

theorem subset_of_nodup_subset_length {α : Type _} {l₁ l₂ : List α} (h₁ : l₁.Nodup) (hs : l₁ ⊆ l₂)
    (hl : l₂.length ≤ l₁.length) : l₂ ⊆ l₁ := by
  intro x hx
  apply Classical.byContradiction
  intro hc
  -- pigeonhole: otherwise `x :: l₁` is a duplicate-free list inside `l₂` and longer than it
  have := (List.nodup_cons.2 ⟨hc, h₁⟩).length_le_of_subset (List.cons_subset.2 ⟨hx, hs⟩)
  simp only [List.length_cons] at this
  omega

/-- Left: what the code checks (the numbers of arms, then every left arm looked up by name on the
right).  Right: the same names and agreement name by name. -/
theorem arms_loop_iff {R : Ty → Ty → Prop} (as bs : Arms) (ha : as.names.Nodup) (hb : bs.names.Nodup) :
    (as.length = bs.length ∧ ∀ n t, (n, t) ∈ as.toList → ∃ t', bs.get n = some t' ∧ R t t') ↔
      (∀ n, n ∈ as.names ↔ n ∈ bs.names) ∧
      (∀ n t u, as.get n = some t → bs.get n = some u → R t u) := by
  constructor
  · rintro ⟨hlen, hall⟩
    have hsub : as.names ⊆ bs.names := by
      intro n hn
      rw [Arms.names_eq_map] at hn
      obtain ⟨⟨n', t⟩, hp, rfl⟩ := List.mem_map.1 hn
      obtain ⟨t', h1, _⟩ := hall n' t hp
      exact Arms.mem_names_of_get h1
    have hsup := subset_of_nodup_subset_length ha hsub
      (by rw [← Arms.length_eq, ← Arms.length_eq, hlen]; exact Nat.le_refl _)
    refine ⟨fun n => ⟨@hsub n, @hsup n⟩, fun n t u ht hu => ?_⟩
    obtain ⟨t', h1, h2⟩ := hall n t (Arms.mem_of_get as n t ht)
    rw [hu] at h1
    cases h1
    exact h2
  · rintro ⟨hn, hp⟩
    refine ⟨?_, fun n t hm => ?_⟩
    · rw [Arms.length_eq, Arms.length_eq]
      exact ((List.perm_ext_iff_of_nodup ha hb).2 hn).length_eq
    · cases hg : bs.get n with
      | none => exact absurd ((hn n).1 (Arms.mem_names_of_mem hm)) ((Arms.get_eq_none bs n).1 hg)
      | some u => exact ⟨u, rfl, hp n t u (Arms.get_of_mem as n t ha hm) hg⟩

/-- `loop` is `lubArms_iff`; it is a hypothesis because that theorem is proved in one recursion with
the user of this one. -/
theorem decl_iff (envL envR : List Nat) (as bs : Arms) (wa : WFArms as = true) (wb : WFArms bs = true)
    (loop : lubArms (ctxOf envL envR) as bs = true ↔
      ∀ n t, (n, t) ∈ as.toList → ∃ t', bs.get n = some t' ∧ toDB envL t = toDB envR t') :
    (as.length == bs.length && lubArms (ctxOf envL envR) as bs) = true ↔
      toDBArms envL as = toDBArms envR bs := by
  have na := ((WFArms_iff as).1 wa).1
  have nb := ((WFArms_iff bs).1 wb).1
  rw [Bool.and_eq_true, beq_iff_eq, loop, toDBArms_eq_iff envL envR as bs na nb]
  exact arms_loop_iff as bs na nb

/-- Every alternative of `lubEq` but the last has one constructor on both sides, and the last is
`false`. -/
theorem lubEq_ctorIdx {c : Ctx} {a b : Ty} (h : lubEq c a b = true) : a.ctorIdx = b.ctorIdx := by
  unfold lubEq at h
  split at h <;> first | rfl | cases h

/-- `DB` has the constructors of `Ty` in the same order, with `bound` and `free` in the place of
`var`, so the index of a nameless form is one more, or 0 for `bound`. -/
theorem ctorIdx_toDB (env : List Nat) (a : Ty) : (toDB env a).ctorIdx - 1 = a.ctorIdx := by
  cases a with
  | var x => unfold toDB; split <;> rfl
  | _ => rfl

/-- Only pairs with the same head constructor need an argument.  (`Nat.beq`, so that `rfl` proves the
hypothesis for any two given constructors.) -/
theorem head_mismatch {c : Ctx} {envL envR : List Nat} {a b : Ty}
    (hc : Nat.beq a.ctorIdx b.ctorIdx = false) :
    lubEq c a b = true ↔ toDB envL a = toDB envR b := by
  have hc : a.ctorIdx ≠ b.ctorIdx := Nat.ne_of_beq_eq_false hc
  refine ⟨fun h => absurd (lubEq_ctorIdx h) hc, fun h => absurd ?_ hc⟩
  rw [← ctorIdx_toDB envL, ← ctorIdx_toDB envR, h]

-- `lubEq` is unfolded with `unfold`, not `simp [lubEq]`: the equation of its last alternative carries
-- twelve side conditions, and every use of it by `simp` is slow. `WF` is unfolded by no lemma at all:
-- `WF (.prod a b) = true` is `(WF a && WF b) = true` by computation, which `Bool.and_eq_true_iff`
-- accepts as it stands, while generating the unfolding lemma of a function on the twelve
-- constructors costs a quarter of this induction.
mutual
/-- No naming discipline is needed for variables: later insertions win in the maps just as inner
binders shadow outer ones in `toDB`. -/
theorem lubEq_iff_toDB : ∀ (a b : Ty) (envL envR : List Nat), envL.length = envR.length →
    WF a = true → WF b = true →
    (lubEq (ctxOf envL envR) a b = true ↔ toDB envL a = toDB envR b)
  | .var x, b, envL, envR, h, _, _ => by
    cases b with
    | var y => exact var_case envL envR h x y
    | _ => exact head_mismatch rfl
  | .int, b, envL, envR, _, _, _ => by
    cases b with
    | int => unfold lubEq toDB; simp
    | _ => exact head_mismatch rfl
  | .str, b, envL, envR, _, _, _ => by
    cases b with
    | str => unfold lubEq toDB; simp
    | _ => exact head_mismatch rfl
  | .unit, b, envL, envR, _, _, _ => by
    cases b with
    | unit => unfold lubEq toDB; simp
    | _ => exact head_mismatch rfl
  | .prod a1 a2, b, envL, envR, h, wa, wb => by
    cases b with
    | prod b1 b2 =>
      have wa := Bool.and_eq_true_iff.1 wa
      have wb := Bool.and_eq_true_iff.1 wb
      unfold lubEq toDB
      simp [lubEq_iff_toDB a1 b1 envL envR h wa.1 wb.1, lubEq_iff_toDB a2 b2 envL envR h wa.2 wb.2]
    | _ => exact head_mismatch rfl
  | .arr a1 a2, b, envL, envR, h, wa, wb => by
    cases b with
    | arr b1 b2 =>
      have wa := Bool.and_eq_true_iff.1 wa
      have wb := Bool.and_eq_true_iff.1 wb
      unfold lubEq toDB
      simp [lubEq_iff_toDB a1 b1 envL envR h wa.1 wb.1, lubEq_iff_toDB a2 b2 envL envR h wa.2 wb.2]
    | _ => exact head_mismatch rfl
  | .thk a1, b, envL, envR, h, wa, wb => by
    cases b with
    | thk b1 => unfold lubEq toDB; simp [lubEq_iff_toDB a1 b1 envL envR h wa wb]
    | _ => exact head_mismatch rfl
  | .ret a1, b, envL, envR, h, wa, wb => by
    cases b with
    | ret b1 => unfold lubEq toDB; simp [lubEq_iff_toDB a1 b1 envL envR h wa wb]
    | _ => exact head_mismatch rfl
  | .all k x body, b, envL, envR, h, wa, wb => by
    cases b with
    | all k' x' body' =>
      unfold lubEq toDB
      simp [ctxOf_insert envL envR h,
        lubEq_iff_toDB body body' (x :: envL) (x' :: envR) (by simp [h]) wa wb]
    | _ => exact head_mismatch rfl
  | .ex k x body, b, envL, envR, h, wa, wb => by
    cases b with
    | ex k' x' body' =>
      unfold lubEq toDB
      simp [ctxOf_insert envL envR h,
        lubEq_iff_toDB body body' (x :: envL) (x' :: envR) (by simp [h]) wa wb]
    | _ => exact head_mismatch rfl
  | .data as, b, envL, envR, h, wa, wb => by
    cases b with
    | data bs =>
      unfold lubEq toDB
      rw [DB.data.injEq]
      exact decl_iff envL envR as bs wa wb (lubArms_iff as bs envL envR h wa wb)
    | _ => exact head_mismatch rfl
  | .codata as, b, envL, envR, h, wa, wb => by
    cases b with
    | codata bs =>
      unfold lubEq toDB
      rw [DB.codata.injEq]
      exact decl_iff envL envR as bs wa wb (lubArms_iff as bs envL envR h wa wb)
    | _ => exact head_mismatch rfl
theorem lubArms_iff : ∀ (as bs : Arms) (envL envR : List Nat), envL.length = envR.length →
    WFArms as = true → WFArms bs = true →
    (lubArms (ctxOf envL envR) as bs = true ↔
      ∀ n t, (n, t) ∈ as.toList → ∃ t', bs.get n = some t' ∧ toDB envL t = toDB envR t')
  | .nil, bs, envL, envR, _, _, _ => by simp [lubArms, Arms.toList]
  | .cons n t rest, bs, envL, envR, h, wa, wb => by
    simp only [WFArms, Bool.and_eq_true] at wa
    simp only [lubArms, Bool.and_eq_true, lubArms_iff rest bs envL envR h wa.2 wb, Arms.toList,
      List.mem_cons, Prod.mk.injEq, or_imp, forall_and, and_imp, forall_eq_apply_imp_iff, forall_eq]
    cases hg : bs.get n with
    | none => simp
    | some t' => simp [lubEq_iff_toDB t t' envL envR h wa.1.2 (WF_of_get wb hg)]
end

theorem lubEq_iff_alphaEq (a b : Ty) (wa : WF a = true) (wb : WF b = true) :
    lubEq {} a b = true ↔ alphaEq a b = true := by
  have := lubEq_iff_toDB a b [] [] rfl wa wb
  rw [ctxOf_nil] at this
  simp [alphaEq, this]

theorem lub_iff_alpha_pf : ZV.Props.C03.LubStatement.lub_iff_alpha :=
  fun a b wa wb _ _ _ _ => lubEq_iff_alphaEq a b wa wb

theorem lub_refl_pf : ZV.Props.C03.LubStatement.lub_refl := by
  intro a wa _
  rw [lubEq_iff_alphaEq a a wa wa]
  simp [alphaEq]

theorem lub_not_refl_on_repeated_name_pf : ZV.Props.C03.LubStatement.lub_not_refl_on_repeated_name := by
  unfold ZV.Props.C03.LubStatement.lub_not_refl_on_repeated_name
  decide

theorem alpha_equiv_pf : ZV.Props.C03.LubStatement.alpha_equiv := by
  simp only [ZV.Props.C03.LubStatement.alpha_equiv, alphaEq, beq_iff_eq]
  exact ⟨fun _ => trivial, fun _ _ => Eq.symm, fun _ _ _ => Eq.trans⟩

theorem alpha_decl_spec_pf : ZV.Props.C03.LubStatement.alpha_decl_spec := by
  intro env₁ env₂ as bs wa wb
  have key := toDBArms_eq_iff env₁ env₂ as bs ((WFArms_iff as).1 wa).1 ((WFArms_iff bs).1 wb).1
  simp only [toDB, DB.data.injEq, DB.codata.injEq]
  exact ⟨key, key⟩

theorem alpha_decl_spec_top_pf : ZV.Props.C03.LubStatement.alpha_decl_spec_top := by
  intro as bs wa wb
  simpa only [alphaEq, beq_iff_eq] using alpha_decl_spec_pf [] [] as bs wa wb

theorem Arms.names_perm {as bs : Arms} (hp : as.toList.Perm bs.toList) : as.names.Perm bs.names := by
  rw [Arms.names_eq_map, Arms.names_eq_map]
  exact hp.map _

theorem WFArms_perm {as bs : Arms} (hp : as.toList.Perm bs.toList) (w : WFArms as = true) :
    WFArms bs = true := by
  rw [WFArms_iff] at w ⊢
  exact ⟨(Arms.names_perm hp).nodup w.1, fun q hq => w.2 q (hp.symm.subset hq)⟩

theorem toDBArms_perm (env : List Nat) {as bs : Arms} (hp : as.toList.Perm bs.toList)
    (ha : as.names.Nodup) : toDBArms env as = toDBArms env bs := by
  have hb := (Arms.names_perm hp).nodup ha
  refine (toDBArms_eq_iff env env as bs ha hb).2
    ⟨fun n => (Arms.names_perm hp).mem_iff, fun n t u ht hu => ?_⟩
  -- the arm `(n, t)` of `as` is an arm of `bs`, so it is the one `bs.get n` finds
  rw [Arms.get_of_mem bs n t hb (hp.subset (Arms.mem_of_get as n t ht))] at hu
  cases hu
  rfl

theorem armPerm_toDB {a b : Ty} (h : ArmPerm a b) :
    WF a = true → WF b = true ∧ ∀ env, toDB env a = toDB env b := by
  induction h with
  | refl a => exact fun w => ⟨w, fun _ => rfl⟩
  | trans _ _ ih1 ih2 =>
    intro w
    have h1 := ih1 w
    have h2 := ih2 h1.1
    exact ⟨h2.1, fun env => (h1.2 env).trans (h2.2 env)⟩
  | data_perm hp | codata_perm hp =>
    intro w
    exact ⟨WFArms_perm hp w, fun env => by simp only [toDB, toDBArms_perm env hp ((WFArms_iff _).1 w).1]⟩
  | prod _ _ ih1 ih2 | arr _ _ ih1 ih2 =>
    intro w
    have w := Bool.and_eq_true_iff.1 w
    have h1 := ih1 w.1
    have h2 := ih2 w.2
    exact ⟨Bool.and_eq_true_iff.2 ⟨h1.1, h2.1⟩, fun env => by simp [toDB, h1.2 env, h2.2 env]⟩
  | thk _ ih | ret _ ih | all _ ih | ex _ ih =>
    intro w
    have h1 := ih w
    exact ⟨h1.1, fun env => by simp [toDB, h1.2]⟩
  | data_head _ ih | codata_head _ ih =>
    intro (w : WFArms (.cons _ _ _) = true)
    simp only [WFArms, Bool.and_eq_true] at w
    have h1 := ih w.1.2
    exact ⟨show WFArms (.cons _ _ _) = true by simp only [WFArms, h1.1, w.1.1, w.2, Bool.and_self],
      fun env => by simp [toDB, toDBArms, h1.2 env]⟩

theorem arm_order_irrelevant_pf : ZV.Props.C03.LubStatement.arm_order_irrelevant := by
  intro a b wa h
  have hb := armPerm_toDB h wa
  rw [lubEq_iff_alphaEq a b wa hb.1, lubEq_iff_alphaEq b a hb.1 wa]
  simp [alphaEq, hb.2 []]

mutual
/-- The positional variant, for `positional_comparison_differs` only: as `lubEq`, but the arms of
two declarations are compared position by position (after the check of the number of arms and of
the sets of names) instead of by name.  This is NOT what the code does. -/
def lubEqZip (c : Ctx) : Ty → Ty → Bool
  | .var a, .var b =>
    match lookup c.lhs a, lookup c.rhs b with
    | some l, some r => l == r
    | none, none => a == b
    | _, _ => false
  | .int, .int => true
  | .str, .str => true
  | .unit, .unit => true
  | .prod a b, .prod a' b' => lubEqZip c a a' && lubEqZip c b b'
  | .thk b, .thk b' => lubEqZip c b b'
  | .ret a, .ret a' => lubEqZip c a a'
  | .arr a b, .arr a' b' => lubEqZip c a a' && lubEqZip c b b'
  | .all k x body, .all k' x' body' => k == k' && lubEqZip (c.insert x x') body body'
  | .ex k x body, .ex k' x' body' => k == k' && lubEqZip (c.insert x x') body body'
  | .data as, .data bs =>
    as.length == bs.length && as.names.all (bs.names.contains ·) && lubArmsZip c as bs
  | .codata as, .codata bs =>
    as.length == bs.length && as.names.all (bs.names.contains ·) && lubArmsZip c as bs
  | _, _ => false
def lubArmsZip (c : Ctx) : Arms → Arms → Bool
  | .nil, .nil => true
  | .cons _ t rest, .cons _ u rest' => lubEqZip c t u && lubArmsZip c rest rest'
  | _, _ => false
end

theorem positional_comparison_differs_pf : ZV.Props.C03.LubStatement.positional_comparison_differs := by
  unfold ZV.Props.C03.LubStatement.positional_comparison_differs
  refine ⟨by decide, by decide, ?_, by decide, by decide, by decide, by decide, by decide⟩
  intro n; simp [or_comm]

/-- the positional variant accepts the pair that `lubEq` (and the specification) tell apart -/
theorem positional_variant_accepts :
    lubEqZip {} ZV.Props.C03.LubStatement.personL ZV.Props.C03.LubStatement.personR = true := by
  decide

theorem permuted_binders_differ_pf : ZV.Props.C03.LubStatement.permuted_binders_differ := by
  intro k₁ k₂ x y x' y' hxy _
  have hb : (y == x) = false := by simpa using (Ne.symm hxy)
  unfold lubEq lubEq lubEq
  simp [Ctx.insert, lookup, hb]

theorem bound_vs_free_differ_pf : ZV.Props.C03.LubStatement.bound_vs_free_differ := by
  intro k x y a hay
  have hb : (y == a) = false := by simpa using (Ne.symm hay)
  unfold lubEq lubEq
  simp [Ctx.insert, lookup, hb]

end ZV.Lub

#print axioms ZV.Lub.lub_iff_alpha_pf
#print axioms ZV.Lub.lub_refl_pf
#print axioms ZV.Lub.lub_not_refl_on_repeated_name_pf
#print axioms ZV.Lub.alpha_equiv_pf
#print axioms ZV.Lub.alpha_decl_spec_pf
#print axioms ZV.Lub.alpha_decl_spec_top_pf
#print axioms ZV.Lub.arm_order_irrelevant_pf
#print axioms ZV.Lub.positional_comparison_differs_pf
#print axioms ZV.Lub.positional_variant_accepts
#print axioms ZV.Lub.permuted_binders_differ_pf
#print axioms ZV.Lub.bound_vs_free_differ_pf
