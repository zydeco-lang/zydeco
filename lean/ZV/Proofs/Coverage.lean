/-
C04, exhaustiveness checking: the matrix algorithm `uncovered` of `ZV/Model/Coverage.lean` is sound
(an empty report means every typed value vector is matched) and its witnesses are genuine (every
reported row denotes an unmatched typed value vector, provided every type is inhabited). Values,
types and patterns meet in the head constructor: `Val.con` splits a value into its constructor and
fields, `ConTy` gives a constructor of a type its argument types, and a matrix covers `v :: vs` iff
its specialisation by the constructor of `v` covers the fields of `v` followed by `vs`
(`covers_specializeM`). Both theorems go along the recursion of `uncovered` (`uncovered_induct`).
-/
import ZV.Model.CoverageSem
import ZV.Proofs.Assoc

namespace ZV.Coverage

theorem All₂.append {α β : Type} {R : α → β → Prop} {as : List α} {bs : List β}
    {as' : List α} {bs' : List β} (h : All₂ R as bs) (h' : All₂ R as' bs') :
    All₂ R (as ++ as') (bs ++ bs') := by
  induction h with
  | nil => simpa using h'
  | cons hab _ ih => exact All₂.cons hab ih

theorem All₂.split {α β : Type} {R : α → β → Prop} :
    ∀ {xs : List α} {bs bs' : List β}, All₂ R xs (bs ++ bs') →
      ∃ as as', xs = as ++ as' ∧ All₂ R as bs ∧ All₂ R as' bs'
  | xs, [], bs', h => ⟨[], xs, rfl, All₂.nil, h⟩
  | _, b :: bs, bs', h => by
    cases h with
    | cons hab htl =>
      obtain ⟨as, as', rfl, h1, h2⟩ := All₂.split htl
      exact ⟨_ :: as, as', rfl, All₂.cons hab h1, h2⟩

theorem rowMatches_length : ∀ {ps : List MPat} {vs : List Val},
    rowMatches ps vs = true → ps.length = vs.length
  | [], [], _ => rfl
  | [], _ :: _, h => by simp [rowMatches] at h
  | _ :: _, [], h => by simp [rowMatches] at h
  | _ :: ps, _ :: vs, h => by
    simp only [rowMatches, Bool.and_eq_true] at h
    simp [rowMatches_length h.2]

theorem rowMatches_append : ∀ (ps : List MPat) (vs : List Val) (ps' : List MPat) (vs' : List Val),
    ps.length = vs.length →
    rowMatches (ps ++ ps') (vs ++ vs') = (rowMatches ps vs && rowMatches ps' vs')
  | [], [], _, _, _ => by simp [rowMatches]
  | [], _ :: _, _, _, h => by simp at h
  | _ :: _, [], _, _, h => by simp at h
  | p :: ps, v :: vs, ps', vs', h => by
    have := rowMatches_append ps vs ps' vs' (by simpa using h)
    simp [rowMatches, this, Bool.and_assoc]

theorem rowMatches_replicate_wild : ∀ (vs : List Val),
    rowMatches (List.replicate vs.length MPat.wild) vs = true
  | [] => rfl
  | _ :: vs => by simp [List.replicate_succ, rowMatches, MPat.matches, rowMatches_replicate_wild vs]

theorem rowDenotes_replicate_wild : ∀ (vs : List Val),
    rowDenotes (List.replicate vs.length CPat.wild) vs = true
  | [] => rfl
  | _ :: vs => by simp [List.replicate_succ, rowDenotes, CPat.denotes, rowDenotes_replicate_wild vs]

def covers (m : Matrix) (vs : List Val) : Bool := m.any fun row => rowMatches row vs

theorem covers_eq_true {m : Matrix} {vs : List Val} :
    covers m vs = true ↔ ∃ row ∈ m, rowMatches row vs = true := by
  simp [covers]

theorem covers_eq_false {m : Matrix} {vs : List Val} :
    covers m vs = false ↔ ∀ row ∈ m, rowMatches row vs = false := by
  simp [covers]

@[simp] theorem covers_nil (vs : List Val) : covers [] vs = false := rfl

@[simp] theorem covers_cons (row : List MPat) (m : Matrix) (vs : List Val) :
    covers (row :: m) vs = (rowMatches row vs || covers m vs) := by
  simp [covers]

theorem covers_singletons (arms : List MPat) (v : Val) :
    covers (arms.map fun p => [p]) [v] = arms.any fun p => p.matches v := by
  induction arms with
  | nil => rfl
  | cons p ps ih => simp [rowMatches, ih]

def Val.con : Val → Option (Con × List Val)
  | .unit => some (.unit, [])
  | .ctor n v => some (.data n, [v])
  | .pair a b => some (.prod, [a, b])
  | .named f v => some (.named f, [v])
  | .pack v => some (.pack, [v])
  | .opaque _ => none

theorem Val.con_length {v : Val} {c : Con} {args : List Val} (h : v.con = some (c, args)) :
    args.length = c.arity := by
  cases v <;> cases h <;> rfl

inductive ConTy (Δ : TSig) : Con → Ty → List Ty → Prop
  | data {d : Nat} {n : String} {a : Ty} : (n, a) ∈ Δ.ctorsOf d → ConTy Δ (.data n) (.data d) [a]
  | unit : ConTy Δ .unit .unit []
  | prod {a b : Ty} : ConTy Δ .prod (.prod a b) [a, b]
  | named {f : String} {a : Ty} : ConTy Δ (.named f) (.named f a) [a]
  | pack {a : Ty} : ConTy Δ .pack (.pack a) [a]

theorem ConTy.length_eq {Δ : TSig} {c : Con} {τ : Ty} {as : List Ty} (h : ConTy Δ c τ as) :
    as.length = c.arity := by
  cases h <;> rfl

theorem ConTy.wfIn {Δ : TSig} (hcl : Δ.Closed) {c : Con} {τ : Ty} {as : List Ty}
    (hc : ConTy Δ c τ as) (hτ : τ.WfIn Δ.length) : ∀ a ∈ as, a.WfIn Δ.length := by
  cases hc with
  | data hmem => simpa using hcl _ _ _ hmem
  | unit => simp
  | prod | named | pack => simpa [Ty.WfIn] using hτ

theorem con_build {Δ : TSig} {c : Con} {τ : Ty} {as : List Ty} {args : List Val} :
    ConTy Δ c τ as → All₂ (HasTy Δ) args as → ∃ v, HasTy Δ v τ ∧ v.con = some (c, args)
  | .data hmem, .cons h .nil => ⟨_, HasTy.ctor hmem h, rfl⟩
  | .unit, .nil => ⟨_, HasTy.unit, rfl⟩
  | .prod, .cons h₁ (.cons h₂ .nil) => ⟨_, HasTy.pair h₁ h₂, rfl⟩
  | .named, .cons h .nil => ⟨_, HasTy.named h, rfl⟩
  | .pack, .cons h .nil => ⟨_, HasTy.pack h, rfl⟩

def Ty.head : Ty → Option Head
  | .unit => some .unit
  | .data d => some (.data d)
  | .prod _ _ => some .prod
  | .named f _ => some (.named f)
  | .pack _ => some .pack
  | .opaque => none

theorem erase_ctors (Δ : TSig) (d : Nat) :
    Δ.erase.ctors d = (Δ.ctorsOf d).map Prod.fst := by
  simp only [Sig.ctors, TSig.erase, TSig.ctorsOf, List.getElem?_map]
  cases Δ[d]? <;> simp

theorem mem_data_constructors (Δ : TSig) (d : Nat) (c : Con) :
    c ∈ (Head.data d).constructors Δ.erase ↔ ∃ n a, c = .data n ∧ (n, a) ∈ Δ.ctorsOf d := by
  simp only [Head.constructors, erase_ctors, List.mem_map, List.mem_eraseDups]
  constructor
  · rintro ⟨n, ⟨⟨n', a⟩, hmem, rfl⟩, rfl⟩
    exact ⟨n', a, rfl, hmem⟩
  · rintro ⟨n, a, rfl, hmem⟩
    exact ⟨n, ⟨(n, a), hmem, rfl⟩, rfl⟩

theorem space_complete {Δ : TSig} {space : Head} {τ : Ty} {v : Val} :
    HasTy Δ v τ → τ.head = some space →
      ∃ c args as, v.con = some (c, args) ∧ c ∈ space.constructors Δ.erase ∧ ConTy Δ c τ as ∧
        All₂ (HasTy Δ) args as
  | .unit, rfl => ⟨_, _, _, rfl, List.mem_cons_self, .unit, .nil⟩
  | .ctor hmem hv, rfl =>
    ⟨_, _, _, rfl, (mem_data_constructors Δ _ _).2 ⟨_, _, rfl, hmem⟩, .data hmem, .cons hv .nil⟩
  | .pair h₁ h₂, rfl => ⟨_, _, _, rfl, List.mem_cons_self, .prod, .cons h₁ (.cons h₂ .nil)⟩
  | .named h, rfl => ⟨_, _, _, rfl, List.mem_cons_self, .named, .cons h .nil⟩
  | .pack h, rfl => ⟨_, _, _, rfl, List.mem_cons_self, .pack, .cons h .nil⟩

theorem space_sound {Δ : TSig} {space : Head} {τ : Ty} {c : Con} (hsp : τ.head = some space)
    (hc : c ∈ space.constructors Δ.erase) : ∃ as, ConTy Δ c τ as := by
  cases τ <;> simp only [Ty.head, Option.some.injEq, reduceCtorEq] at hsp <;> subst hsp
  case data d =>
    obtain ⟨n, a, rfl, hmem⟩ := (mem_data_constructors Δ d c).1 hc
    exact ⟨_, ConTy.data hmem⟩
  all_goals
    simp only [Head.constructors, List.mem_singleton] at hc
    subst hc
    exact ⟨_, by constructor⟩

theorem specialize_length {c : Con} {p : MPat} {fields : List MPat}
    (h : c.specialize p = some fields) : fields.length = c.arity := by
  revert h
  fun_cases Con.specialize c p <;> intro h <;> cases h <;>
    first | rfl | exact List.length_replicate ..

theorem matches_specialize {v : Val} {c : Con} {args : List Val} (h : v.con = some (c, args))
    (p : MPat) :
    p.matches v = (match c.specialize p with
      | some fields => rowMatches fields args
      | none => false) := by
  cases p with
  | wild =>
    simp only [Con.specialize, MPat.matches, ← Val.con_length h, rowMatches_replicate_wild]
  | ctor _ n q | named n q =>
    -- a pattern and a value with different heads: both sides compute to `false`
    cases v <;> cases h <;> try rfl
    next n' _ =>
      by_cases hn : n' = n
      · simp [Con.specialize, MPat.matches, rowMatches, hn]
      · simp [Con.specialize, MPat.matches, hn, Ne.symm hn]
  | _ => cases v <;> cases h <;> first | rfl | simp [Con.specialize, MPat.matches, rowMatches]

theorem covers_specializeM {v : Val} {c : Con} {args : List Val} (h : v.con = some (c, args))
    (vs : List Val) : ∀ (m : Matrix), covers m (v :: vs) = covers (specializeM c m) (args ++ vs)
  | [] => by simp [specializeM]
  | [] :: m => by simp [specializeM, rowMatches, covers_specializeM h vs m]
  | (p :: tl) :: m => by
    have ih := covers_specializeM h vs m
    have hm := matches_specialize h p
    simp only [specializeM, covers_cons, rowMatches]
    cases hs : c.specialize p with
    | none => simp [hs] at hm; simp [hm, ih]
    | some fields =>
      simp only [hs] at hm
      have hl : fields.length = args.length := by
        rw [specialize_length hs, Val.con_length h]
      simp [rowMatches_append _ _ _ _ hl, hm, ih]

theorem covers_defaultM (v : Val) (vs : List Val) : ∀ (m : Matrix), firstHead m = none →
    covers m (v :: vs) = covers (defaultM m) vs
  | [], _ => rfl
  | [] :: m, h => by simp [defaultM, rowMatches, covers_defaultM v vs m h]
  | (p :: tl) :: m, h => by
    -- the row starts with a wildcard, or the matrix would have a head
    cases p <;> simp [firstHead, MPat.headSpace] at h
    simp [defaultM, rowMatches, MPat.matches, covers_defaultM v vs m h]

theorem rebuild_denotes {v : Val} {c : Con} {args : List Val} (h : v.con = some (c, args))
    {w : List CPat} {vs : List Val} (hw : rowDenotes w (args ++ vs) = true) :
    rowDenotes (c.rebuild w) (v :: vs) = true := by
  cases v <;> cases h
  case unit => exact hw
  case pair a b =>
    match w, hw with
    | [_], hw => simp [rowDenotes] at hw
    | x :: y :: rest, hw =>
      simpa [Con.rebuild, Con.arity, rowDenotes, CPat.denotes, Bool.and_assoc] using hw
  all_goals
    match w, hw with
    | x :: rest, hw => simpa [Con.rebuild, Con.arity, rowDenotes, CPat.denotes] using hw

theorem rebuild_length (c : Con) (row : List CPat) :
    (c.rebuild row).length = row.length - c.arity + 1 := by
  simp [Con.rebuild]

theorem all₂_replicate_wild (Δ : TSig) : ∀ (as : List Ty),
    All₂ (PatTy Δ) (List.replicate as.length MPat.wild) as
  | [] => All₂.nil
  | _ :: as => All₂.cons PatTy.wild (all₂_replicate_wild Δ as)

theorem specialize_typed {Δ : TSig} (hwf : WfSig Δ) {c : Con} {τ : Ty} {as : List Ty} {p : MPat}
    {fields : List MPat} :
    ConTy Δ c τ as → PatTy Δ p τ → c.specialize p = some fields → All₂ (PatTy Δ) fields as
  | hc, .wild, hs => by
    simp only [Con.specialize, Option.some.injEq] at hs
    rw [← hs, ← hc.length_eq]
    exact all₂_replicate_wild Δ as
  | .data hmem', .ctor hmem hq, hs => by
    simp only [Con.specialize, Option.ite_none_right_eq_some, Option.some.injEq] at hs
    obtain ⟨rfl, rfl⟩ := hs
    -- constructor names are distinct, so the two declarations of this name are one
    cases inj_on_of_nodup_map (hwf _) hmem hmem' rfl
    exact .cons hq .nil
  | .unit, .unit, rfl => .nil
  | .prod, .prod h₁ h₂, rfl => .cons h₁ (.cons h₂ .nil)
  | .named, .named h, hs => by
    simp only [Con.specialize, if_true, Option.some.injEq] at hs
    exact hs ▸ .cons h .nil
  | .pack, .pack h, rfl => .cons h .nil

theorem specializeM_typed {Δ : TSig} (hwf : WfSig Δ) {c : Con} {τ : Ty} {as : List Ty}
    (hc : ConTy Δ c τ as) {τs : List Ty} : ∀ (m : Matrix),
    (∀ row ∈ m, All₂ (PatTy Δ) row (τ :: τs)) →
    ∀ row ∈ specializeM c m, All₂ (PatTy Δ) row (as ++ τs)
  | [], _, _, h => by cases h
  | r :: m, hm, row, h => by
    have ih := specializeM_typed hwf hc m (fun r hr => hm r (by simp [hr])) row
    cases hm r (by simp) with
    | @cons p _ tl _ hp htl =>
      simp only [specializeM] at h
      cases hs : c.specialize p with
      | none => rw [hs] at h; exact ih h
      | some fields =>
        rw [hs] at h
        rcases List.mem_cons.1 h with rfl | h
        · exact (specialize_typed hwf hc hp hs).append htl
        · exact ih h

theorem mem_defaultM {row : List MPat} : ∀ {m : Matrix}, row ∈ defaultM m ↔ (MPat.wild :: row) ∈ m
  | [] => by simp [defaultM]
  | [] :: m => by simp [defaultM, mem_defaultM (m := m)]
  | (p :: tl) :: m => by
    cases p <;> simp [defaultM, mem_defaultM (m := m)]

theorem defaultM_typed {Δ : TSig} {τ : Ty} {τs : List Ty} {m : Matrix}
    (hm : ∀ row ∈ m, All₂ (PatTy Δ) row (τ :: τs)) :
    ∀ row ∈ defaultM m, All₂ (PatTy Δ) row τs := by
  intro row h
  have := hm _ (mem_defaultM.1 h)
  cases this with
  | cons _ htl => exact htl

theorem headSpace_eq_head {Δ : TSig} {p : MPat} {τ : Ty} {space : Head} :
    PatTy Δ p τ → p.headSpace = some space → τ.head = some space
  | .ctor .., rfl | .unit, rfl | .prod .., rfl | .named _, rfl | .pack _, rfl => rfl

theorem firstHead_eq_head {Δ : TSig} {τ : Ty} {τs : List Ty} {space : Head} : ∀ {m : Matrix},
    (∀ row ∈ m, All₂ (PatTy Δ) row (τ :: τs)) → firstHead m = some space → τ.head = some space
  | [], _, h => by cases h
  | row :: m, hm, h => by
    cases hm row (by simp) with
    | @cons p _ tl _ hp _ =>
      simp only [firstHead] at h
      cases hps : p.headSpace with
      | some hd => rw [hps] at h; cases h; exact headSpace_eq_head hp hps
      | none => rw [hps] at h; exact firstHead_eq_head (fun r hr => hm r (by simp [hr])) h

theorem singleton_rows_typed {Δ : TSig} {arms : List MPat} {τ : Ty}
    (hp : ∀ p ∈ arms, PatTy Δ p τ) :
    ∀ row ∈ arms.map (fun p => [p]), All₂ (PatTy Δ) row [τ] := by
  intro row hrow
  obtain ⟨p, hpm, rfl⟩ := List.mem_map.1 hrow
  exact All₂.cons (hp p hpm) All₂.nil

theorem uncovered_zero (Δ : Sig) (m : Matrix) :
    uncovered Δ m 0 = if m.isEmpty then [[]] else [] := by
  rw [uncovered]; simp

theorem uncovered_nil (Δ : Sig) (n : Nat) : uncovered Δ [] n = [List.replicate n .wild] := by
  rw [uncovered]; cases n <;> simp

theorem uncovered_finite {Δ : Sig} {m : Matrix} {space : Head} (h : firstHead m = some space)
    (n : Nat) : uncovered Δ m (n + 1) = uncoveredFinite Δ m (n + 1) space := by
  cases m with
  | nil => cases h
  | cons row rest =>
    rw [uncovered]
    simp only [Nat.add_one_ne_zero, if_false, List.isEmpty_cons, Bool.false_eq_true]
    split <;> simp_all [uncoveredFinite]

/-- Also for the empty matrix, whose one report is a row of wildcards. -/
theorem uncovered_default {Δ : Sig} {m : Matrix} (h : firstHead m = none) (n : Nat) :
    uncovered Δ m (n + 1) =
      ((uncovered Δ (defaultM m) n).map (CPat.wild :: ·)).take (maxReported + 1) := by
  cases m with
  | nil => simp [defaultM, uncovered_nil, List.replicate_succ, maxReported]
  | cons row rest =>
    rw [uncovered]
    simp only [Nat.add_one_ne_zero, if_false, List.isEmpty_cons, Bool.false_eq_true]
    split <;> simp_all

/-- Induction along `uncovered`, to be used with the three equations above. The empty matrix has no
case of its own: it has no head, and its default matrix is empty again. -/
theorem uncovered_induct {P : Matrix → Nat → Prop} (zero : ∀ m, P m 0)
    (finite : ∀ m n space, firstHead m = some space →
      (∀ c : Con, P (specializeM c m) (n + c.arity)) → P m (n + 1))
    (default : ∀ m n, firstHead m = none → P (defaultM m) n → P m (n + 1)) : ∀ m n, P m n := by
  intro m n
  induction m, n using uncovered.induct with
  | case1 m _ | case2 m _ => exact zero m
  | case3 m n hn hm =>
    rw [List.isEmpty_iff.1 hm]
    clear hn
    induction n with
    | zero => exact zero []
    | succ n ih => exact default [] n rfl ih
  | case4 m n hn _ space hfh ih =>
    obtain ⟨n, rfl⟩ := Nat.exists_eq_succ_of_ne_zero hn
    exact finite m n space hfh ih
  | case5 m n hn _ hfh ih =>
    obtain ⟨n, rfl⟩ := Nat.exists_eq_succ_of_ne_zero hn
    exact default m n hfh ih

theorem take_succ_eq_nil {α : Type} {l : List α} {n : Nat} (h : l.take (n + 1) = []) : l = [] := by
  rcases List.take_eq_nil_iff.1 h with h | h
  · omega
  · exact h

theorem uncoveredFinite_eq_nil {Δ : Sig} {m : Matrix} {n : Nat} {space : Head}
    (h : uncoveredFinite Δ m (n + 1) space = []) {c : Con} (hc : c ∈ space.constructors Δ) :
    uncovered Δ (specializeM c m) (n + c.arity) = [] :=
  List.map_eq_nil_iff.1 (List.flatMap_eq_nil_iff.1 (take_succ_eq_nil h) c hc)

theorem mem_uncoveredFinite {Δ : Sig} {m : Matrix} {n : Nat} {space : Head} {w : List CPat}
    (h : w ∈ uncoveredFinite Δ m (n + 1) space) :
    ∃ c ∈ space.constructors Δ, ∃ w' ∈ uncovered Δ (specializeM c m) (n + c.arity),
      c.rebuild w' = w := by
  obtain ⟨c, hc, h⟩ := List.mem_flatMap.1 (List.mem_of_mem_take h)
  exact ⟨c, hc, List.mem_map.1 h⟩

/-- One `uncovered_finite` step, given soundness of the recursive calls. It stands alone because the
outermost call enters `uncovered_finite` directly when a head space is expected. -/
theorem finite_sound {Δ : TSig} (hwf : WfSig Δ) {m : Matrix} {space : Head} {τ : Ty} {τs : List Ty}
    (hsp : τ.head = some space) (hm : ∀ row ∈ m, All₂ (PatTy Δ) row (τ :: τs))
    (ih : ∀ (c : Con) (τs' : List Ty), τs'.length = τs.length + c.arity →
      (∀ row ∈ specializeM c m, All₂ (PatTy Δ) row τs') →
      uncovered Δ.erase (specializeM c m) (τs.length + c.arity) = [] →
      ∀ vs, All₂ (HasTy Δ) vs τs' → covers (specializeM c m) vs = true)
    (he : uncoveredFinite Δ.erase m (τs.length + 1) space = [])
    {v : Val} {vs : List Val} (hv : HasTy Δ v τ) (hvs : All₂ (HasTy Δ) vs τs) :
    covers m (v :: vs) = true := by
  obtain ⟨c, args, as, hcon, hcmem, hcty, hargs⟩ := space_complete hv hsp
  rw [covers_specializeM hcon]
  exact ih c (as ++ τs) (by simp [hcty.length_eq, Nat.add_comm]) (specializeM_typed hwf hcty m hm)
    (uncoveredFinite_eq_nil he hcmem) (args ++ vs) (hargs.append hvs)

theorem uncovered_sound_aux {Δ : TSig} (hwf : WfSig Δ) (m : Matrix) (n : Nat) :
    ∀ τs : List Ty, τs.length = n → (∀ row ∈ m, All₂ (PatTy Δ) row τs) →
      uncovered Δ.erase m n = [] → ∀ vs, All₂ (HasTy Δ) vs τs → covers m vs = true := by
  induction m, n using uncovered_induct with
  | zero m =>
    intro τs hlen hrows he vs hvs
    rw [uncovered_zero] at he
    cases m with
    | nil => simp at he
    | cons row rest =>
      obtain rfl := List.eq_nil_of_length_eq_zero hlen
      cases hvs
      cases hrows row (by simp)
      rfl
  | finite m n space hfh ih =>
    intro τs hlen hrows he vs hvs
    cases hvs with
    | nil => cases hlen
    | cons hv hvs =>
      obtain rfl := Nat.succ.inj hlen
      rw [uncovered_finite hfh] at he
      exact finite_sound hwf (firstHead_eq_head hrows hfh) hrows ih he hv hvs
  | default m n hfh ih =>
    intro τs hlen hrows he vs hvs
    cases hvs with
    | nil => cases hlen
    | @cons v τ vs τs hv hvs =>
      rw [uncovered_default hfh] at he
      rw [covers_defaultM v vs m hfh]
      exact ih τs (Nat.succ.inj hlen) (defaultM_typed hrows)
        (List.map_eq_nil_iff.1 (take_succ_eq_nil he)) vs hvs

def Unmatched (Δ : TSig) (m : Matrix) (τs : List Ty) (w : List CPat) : Prop :=
  ∃ vs, All₂ (HasTy Δ) vs τs ∧ rowDenotes w vs = true ∧ covers m vs = false

theorem finite_witness {Δ : TSig} (hwf : WfSig Δ) (hcl : Δ.Closed) {m : Matrix} {space : Head}
    {τ : Ty} {τs : List Ty} (hsp : τ.head = some space)
    (hsc : ∀ σ ∈ τ :: τs, σ.WfIn Δ.length)
    (hm : ∀ row ∈ m, All₂ (PatTy Δ) row (τ :: τs))
    (ih : ∀ (c : Con) (τs' : List Ty), τs'.length = τs.length + c.arity →
      (∀ σ ∈ τs', σ.WfIn Δ.length) →
      (∀ row ∈ specializeM c m, All₂ (PatTy Δ) row τs') →
      ∀ w ∈ uncovered Δ.erase (specializeM c m) (τs.length + c.arity),
        Unmatched Δ (specializeM c m) τs' w)
    {w : List CPat} (hw : w ∈ uncoveredFinite Δ.erase m (τs.length + 1) space) :
    Unmatched Δ m (τ :: τs) w := by
  obtain ⟨c, hcmem, w', hw', rfl⟩ := mem_uncoveredFinite hw
  obtain ⟨as, hcty⟩ := space_sound hsp hcmem
  have hsc' : ∀ σ ∈ as ++ τs, σ.WfIn Δ.length :=
    List.forall_mem_append.2 ⟨hcty.wfIn hcl (hsc τ (by simp)), fun σ h => hsc σ (by simp [h])⟩
  obtain ⟨vs', hty, hden, hcov⟩ := ih c (as ++ τs) (by simp [hcty.length_eq, Nat.add_comm]) hsc'
    (specializeM_typed hwf hcty m hm) w' hw'
  obtain ⟨args, vs, rfl, hargs, hvs⟩ := All₂.split hty
  obtain ⟨v, hv, hcon⟩ := con_build hcty hargs
  exact ⟨v :: vs, .cons hv hvs, rebuild_denotes hcon hden, by rw [covers_specializeM hcon, hcov]⟩

theorem uncovered_witness_aux {Δ : TSig} (hwf : WfSig Δ) (hcl : Δ.Closed) (hinh : AllInhabited Δ)
    (m : Matrix) (n : Nat) :
    ∀ τs : List Ty, τs.length = n → (∀ σ ∈ τs, σ.WfIn Δ.length) →
      (∀ row ∈ m, All₂ (PatTy Δ) row τs) → ∀ w ∈ uncovered Δ.erase m n, Unmatched Δ m τs w := by
  induction m, n using uncovered_induct with
  | zero m =>
    intro τs hlen _ _ w hw
    obtain rfl := List.eq_nil_of_length_eq_zero hlen
    rw [uncovered_zero] at hw
    cases m with
    | nil => obtain rfl := List.mem_singleton.1 hw; exact ⟨[], All₂.nil, rfl, rfl⟩
    | cons _ _ => cases hw
  | finite m n space hfh ih =>
    intro τs hlen hsc hrows w hw
    cases τs with
    | nil => cases hlen
    | cons τ τs =>
      obtain rfl := Nat.succ.inj hlen
      rw [uncovered_finite hfh] at hw
      exact finite_witness hwf hcl (firstHead_eq_head hrows hfh) hsc hrows ih hw
  | default m n hfh ih =>
    intro τs hlen hsc hrows w hw
    cases τs with
    | nil => cases hlen
    | cons τ τs =>
      rw [uncovered_default hfh] at hw
      obtain ⟨w', hw', rfl⟩ := List.mem_map.1 (List.mem_of_mem_take hw)
      obtain ⟨vs, hvs, hden, hcov⟩ := ih τs (Nat.succ.inj hlen)
        (fun σ hσ => hsc σ (by simp [hσ])) (defaultM_typed hrows) w' hw'
      -- the wildcard in front stands for any value of the first type: here inhabitation is used
      obtain ⟨v, hv⟩ := hinh τ (hsc τ (by simp))
      exact ⟨v :: vs, .cons hv hvs, by simpa [rowDenotes, CPat.denotes] using hden,
        by rw [covers_defaultM v vs m hfh, hcov]⟩

theorem validateMatch_eq_none {Δ : Sig} {arms : List MPat} {e : Option Head} :
    validateMatch Δ arms e = none ↔ uncoveredTop Δ (arms.map fun p => [p]) e = [] := by
  unfold validateMatch
  simp [List.take_eq_nil_iff, maxReported]

theorem validateMatch_missing {Δ : Sig} {arms : List MPat} {e : Option Head} {r : MatchReport}
    (h : validateMatch Δ arms e = some r) :
    ∀ w ∈ r.missing, ∃ row ∈ uncoveredTop Δ (arms.map fun p => [p]) e, w = row.headD .wild := by
  unfold validateMatch at h
  simp only at h
  split at h
  · cases h
  · cases h
    intro w hw
    obtain ⟨row, hrow, rfl⟩ := List.mem_map.1 hw
    exact ⟨row, List.mem_of_mem_take hrow, rfl⟩

theorem expectedOk_cases {e : Option Head} {τ : Ty} (h : ExpectedOk e τ) :
    e = none ∨ ∃ space, e = some space ∧ τ.head = some space := by
  rcases h with h | ⟨d, h, rfl⟩ | ⟨a, h, rfl⟩
  · exact Or.inl h
  · exact Or.inr ⟨_, h, rfl⟩
  · exact Or.inr ⟨_, h, rfl⟩

theorem top_sound {Δ : TSig} (hwf : WfSig Δ) {arms : List MPat} {τ : Ty} {e : Option Head}
    (he : ExpectedOk e τ) (hp : ∀ p ∈ arms, PatTy Δ p τ)
    (h : uncoveredTop Δ.erase (arms.map fun p => [p]) e = []) {v : Val} (hv : HasTy Δ v τ) :
    ∃ p ∈ arms, p.matches v = true := by
  have hrows := singleton_rows_typed hp
  have hcov : covers (arms.map fun p => [p]) [v] = true := by
    rcases expectedOk_cases he with rfl | ⟨space, rfl, hsp⟩
    · exact uncovered_sound_aux hwf _ 1 [τ] rfl hrows h [v] (All₂.cons hv All₂.nil)
    · exact finite_sound hwf hsp hrows (fun c => uncovered_sound_aux hwf _ _) h hv All₂.nil
  simpa [covers_singletons] using hcov

theorem top_witness {Δ : TSig} (hwf : WfSig Δ) (hcl : Δ.Closed) (hinh : AllInhabited Δ)
    {arms : List MPat} {τ : Ty} (hτ : τ.WfIn Δ.length)
    {e : Option Head} (he : ExpectedOk e τ) (hp : ∀ p ∈ arms, PatTy Δ p τ)
    {row : List CPat} (hrow : row ∈ uncoveredTop Δ.erase (arms.map fun p => [p]) e) :
    ∃ v, HasTy Δ v τ ∧ (row.headD .wild).denotes v = true ∧ ∀ p ∈ arms, p.matches v = false := by
  have hrows := singleton_rows_typed hp
  have hsc : ∀ σ ∈ [τ], σ.WfIn Δ.length := by simpa using hτ
  have hw : Unmatched Δ (arms.map fun p => [p]) [τ] row := by
    rcases expectedOk_cases he with rfl | ⟨space, rfl, hsp⟩
    · exact uncovered_witness_aux hwf hcl hinh _ 1 [τ] rfl hsc hrows row hrow
    · exact finite_witness hwf hcl hsp hsc hrows
        (fun c => uncovered_witness_aux hwf hcl hinh _ _) hrow
  obtain ⟨_, hvs, hden, hcov⟩ := hw
  cases hvs with | cons hv hnil =>
  cases hnil
  rw [covers_singletons] at hcov
  refine ⟨_, hv, ?_, by simpa using hcov⟩
  match row, hden with
  | x :: _, hden => exact (Bool.and_eq_true_iff.1 hden).1

/-- Every row reported for a matrix of `columns` columns has `columns` entries (so the `expect`s
of `Constructor::rebuild` cannot fire). -/
theorem uncovered_length (Δ : Sig) (m : Matrix) (columns : Nat) :
    ∀ row ∈ uncovered Δ m columns, row.length = columns := by
  induction m, columns using uncovered_induct with
  | zero m => rw [uncovered_zero]; split <;> simp
  | finite m n space hfh ih =>
    intro row h
    rw [uncovered_finite hfh] at h
    obtain ⟨c, _, w, hw, rfl⟩ := mem_uncoveredFinite h
    rw [rebuild_length, ih c w hw]
    omega
  | default m n hfh ih =>
    intro row h
    rw [uncovered_default hfh] at h
    obtain ⟨w, hw, rfl⟩ := List.mem_map.1 (List.mem_of_mem_take h)
    simp [ih w hw]

theorem dups_nil_iff : ∀ (seen arms : List String),
    validateComatch.dups seen [] arms = [] ↔ (∀ a ∈ arms, a ∉ seen) ∧ arms.Nodup
  | seen, [] => by simp [validateComatch.dups]
  | seen, a :: rest => by
    by_cases ha : a ∈ seen
    · simp [validateComatch.dups, ha]
    · have ih := dups_nil_iff (a :: seen) rest
      simp only [validateComatch.dups, List.contains_eq_mem, ha, decide_false, Bool.false_eq_true,
        if_false, ih, List.mem_cons, not_or, List.nodup_cons, forall_eq_or_imp, not_false_eq_true,
        true_and]
      constructor
      · rintro ⟨h1, h2⟩
        exact ⟨fun b hb => (h1 b hb).2, fun hmem => (h1 a hmem).1 rfl, h2⟩
      · rintro ⟨h1, h2, h3⟩
        exact ⟨fun b hb => ⟨fun e => h2 (e ▸ hb), h1 b hb⟩, h3⟩

/-- The hint is redundant when some arm has a constructor at its head. -/
theorem uncoveredTop_hint {Δ : Sig} {m : Matrix} {space : Head} (h : firstHead m = some space) :
    uncoveredTop Δ m (some space) = uncoveredTop Δ m none :=
  (uncovered_finite h 0).symm

theorem validateMatch_hint {Δ : Sig} {arms : List MPat} {space : Head}
    (h : firstHead (arms.map fun p => [p]) = some space) :
    validateMatch Δ arms (some space) = validateMatch Δ arms none := by
  simp only [validateMatch, uncoveredTop_hint h]

/-- `uncovered` by recursion on a budget of steps. `uncovered` itself is defined by well-founded
recursion, which the kernel does not unfold; this copy it can run (`decide`). -/
def uncoveredFuel (Δ : Sig) : Nat → Matrix → Nat → List (List CPat)
  | _, m, 0 => if m.isEmpty then [[]] else []
  | 0, _, _ + 1 => []
  | fuel + 1, m, n + 1 =>
    match firstHead m with
    | some space =>
      ((space.constructors Δ).flatMap fun c =>
        (uncoveredFuel Δ fuel (specializeM c m) (n + c.arity)).map c.rebuild).take (maxReported + 1)
    | none => ((uncoveredFuel Δ fuel (defaultM m) n).map (CPat.wild :: ·)).take (maxReported + 1)

theorem Con.arity_le_two (c : Con) : c.arity ≤ 2 := by
  cases c <;> simp [Con.arity]

/-- A step of specialisation loses a node of the matrix and gains at most one column. -/
theorem uncovered_eq_fuel_of_lt (Δ : Sig) (m : Matrix) (n : Nat) :
    ∀ fuel, 2 * matrixSize m + n < fuel → uncovered Δ m n = uncoveredFuel Δ fuel m n := by
  induction m, n using uncovered_induct with
  | zero m => intro fuel _; rw [uncovered_zero]; cases fuel <;> rfl
  | finite m n space hfh ih =>
    intro fuel h
    cases fuel with
    | zero => omega
    | succ fuel =>
      have hrec : ∀ c, uncovered Δ (specializeM c m) (n + c.arity) =
          uncoveredFuel Δ fuel (specializeM c m) (n + c.arity) := fun c =>
        ih c fuel (by
          have := specializeM_size_lt c m (by simp [hfh])
          have := c.arity_le_two
          omega)
      simp [uncovered_finite hfh, uncoveredFinite, uncoveredFuel, hfh, hrec]
  | default m n hfh ih =>
    intro fuel h
    cases fuel with
    | zero => omega
    | succ fuel =>
      simp [uncovered_default hfh, uncoveredFuel, hfh,
        ih fuel (by have := defaultM_size_le m; omega)]

theorem uncovered_eq_fuel (Δ : Sig) (m : Matrix) (columns : Nat) :
    uncovered Δ m columns = uncoveredFuel Δ (2 * matrixSize m + columns + 1) m columns :=
  uncovered_eq_fuel_of_lt Δ m columns _ (Nat.lt_succ_self _)

end ZV.Coverage
