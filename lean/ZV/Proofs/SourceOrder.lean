/-
On a well-formed graph with no cycle reachable from the root, the provider order
(`orderVisit`/`orderDeps`, `providerOrder`) lists every reachable node once, each after everything
it depends on, the root last: `providerOrder_spec`. Nothing here refers to the cycle detector.

`OrderOutcome` and `order_outcome` are to this pair of functions what `DetectOutcome` and
`detect_outcome` are to the detector (`SourceDetect.lean`). Fuel does not run out: a nested visit spends one unit and adds a visited node, and the visited
nodes are duplicate-free and in range.
-/
import ZV.Proofs.SourceBasics

namespace ZV.SourceGraph

/-- `st` is the pair (visited, order) that `orderVisit` threads. -/
structure OInv (g : Graph) (root : Nat) (st : List Nat × List Nat) : Prop where
  sub : ∀ x ∈ st.2, x ∈ st.1
  v_nodup : st.1.Nodup
  v_range : ∀ x ∈ st.1, x < g.sources.length
  v_reach : ∀ x ∈ st.1, g.Reach root x
  o_nodup : st.2.Nodup
  o_closed : ∀ (i x : Nat), st.2[i]? = some x → ∀ y, g.Edge x y → ∃ j : Nat, j < i ∧ st.2[j]? = some y

/-- What a call may change: it only adds, and whatever it visits it also lists. -/
structure OStep (st st' : List Nat × List Nat) : Prop where
  grey : ∀ x, (x ∈ st'.1 ∧ x ∉ st'.2) ↔ (x ∈ st.1 ∧ x ∉ st.2)
  o_mono : ∀ x ∈ st.2, x ∈ st'.2
  v_mono : ∀ x ∈ st.1, x ∈ st'.1

theorem OStep.refl (st : List Nat × List Nat) : OStep st st :=
  ⟨fun _ => Iff.rfl, fun _ h => h, fun _ h => h⟩

theorem OStep.trans {a b c : List Nat × List Nat} (h₁ : OStep a b) (h₂ : OStep b c) : OStep a c :=
  ⟨fun x => (h₂.grey x).trans (h₁.grey x), fun x hx => h₂.o_mono x (h₁.o_mono x hx),
   fun x hx => h₂.v_mono x (h₁.v_mono x hx)⟩

def OrderOutcome (g : Graph) (root : Nat) (st : List Nat × List Nat) (done : List Nat)
    (st' : List Nat × List Nat) : Prop :=
  OInv g root st' ∧ OStep st st' ∧ ∀ t ∈ done, t ∈ st'.2

/-- Every visited node that is not yet listed reaches the node being visited (`Reach1`) or the
node whose dependencies are being visited (`Reach`), so on an acyclic graph a visited target is
already listed. -/
def OrderVisitOk (g : Graph) (root n : Nat) (st : List Nat × List Nat) (s : Nat)
    (st' : List Nat × List Nat) : Prop :=
  OInv g root st → g.Reach root s → s < g.sources.length → (∀ x ∈ st.1, x ∉ st.2 → g.Reach1 x s) →
    g.sources.length + 1 ≤ n + st.1.length → OrderOutcome g root st [s] st'

def OrderDepsOk (g : Graph) (root n : Nat) (st : List Nat × List Nat) (l : List Dep)
    (st' : List Nat × List Nat) : Prop :=
  OInv g root st → ∀ cur, g.Reach root cur → (∀ dep ∈ l, dep ∈ g.dependencies cur) →
    (∀ x ∈ st.1, x ∉ st.2 → g.Reach x cur) → g.sources.length + 1 ≤ n + st.1.length →
    OrderOutcome g root st (l.map g.target) st'

theorem order_outcome {g : Graph} (hw : g.Wf) {root : Nat} (hac : ∀ a, g.Reach root a → ¬ g.Reach1 a a) :
    (∀ n st s, OrderVisitOk g root n st s (orderVisit g n st s)) ∧
    ∀ n st l, OrderDepsOk g root n st l (orderDeps g n st l) := by
  -- one case for each branch of `orderVisit` (3), then of `orderDeps` (2)
  refine orderVisit.mutual_induct_unfolding g (OrderVisitOk g root) (OrderDepsOk g root) ?_ ?_ ?_ ?_ ?_
  · intro st s hinv _ _ _ hfuel
    have := length_le_of_nodup_lt hinv.v_nodup hinv.v_range
    omega
  · -- visited: were `s` not yet listed, it would reach itself
    intro n v o s hm hinv hs _ hgrey _
    exact ⟨hinv, OStep.refl _, List.forall_mem_singleton.2 <| Decidable.byContradiction fun hso =>
      hac s hs (hgrey s (by simpa using hm) hso)⟩
  · intro n v o s hm v2 o2 heq ih hinv hs hlt hgrey hfuel
    have hm : s ∉ v := by simpa using hm
    have hinv1 : OInv g root (s :: v, o) :=
      { hinv with
        sub := fun x hx => List.mem_cons_of_mem _ (hinv.sub x hx)
        v_nodup := List.nodup_cons.2 ⟨hm, hinv.v_nodup⟩
        v_range := List.forall_mem_cons.2 ⟨hlt, hinv.v_range⟩
        v_reach := List.forall_mem_cons.2 ⟨hs, hinv.v_reach⟩ }
    obtain ⟨hinv2, hstep, hall⟩ := (heq ▸ ih) hinv1 s hs (fun _ h => h)
      (List.forall_mem_cons.2 ⟨fun _ => .refl _, fun x hx hxo => (hgrey x hx hxo).reach⟩)
      (by have : _ ≤ n + 1 + v.length := hfuel; simp only [List.length_cons]; omega)
    have hs2 : s ∈ v2 ∧ s ∉ o2 := (hstep.grey s).2 ⟨List.mem_cons_self .., fun h => hm (hinv.sub s h)⟩
    refine ⟨{ hinv2 with
        sub := List.forall_mem_append.2 ⟨hinv2.sub, List.forall_mem_singleton.2 hs2.1⟩
        o_nodup := nodup_append_singleton.2 ⟨hs2.2, hinv2.o_nodup⟩
        o_closed := ?_ },
      ⟨fun x => ?_, fun x hx => List.mem_append_left _ (hstep.o_mono x hx),
        fun x hx => hstep.v_mono x (List.mem_cons_of_mem _ hx)⟩, by simp⟩
    · intro i x hi y e
      rcases getElem?_concat_eq_some.1 hi with hi | ⟨rfl, rfl⟩
      · obtain ⟨j, hj, hjy⟩ := hinv2.o_closed i x hi y e
        exact ⟨j, hj, getElem?_concat_eq_some.2 (.inl hjy)⟩
      · obtain ⟨dep, hdep, rfl⟩ := e
        obtain ⟨j, hjy⟩ := List.mem_iff_getElem?.1 (hall _ (List.mem_map_of_mem hdep))
        exact ⟨j, (List.getElem?_eq_some_iff.1 hjy).1, getElem?_concat_eq_some.2 (.inl hjy)⟩
    · -- `s` was white before and is listed only now
      have hg := hstep.grey x
      simp only [List.mem_cons] at hg
      simp only [List.mem_append, List.mem_singleton, not_or]
      exact ⟨fun ⟨h1, h2, h3⟩ => let ⟨h, ho⟩ := hg.1 ⟨h1, h2⟩; ⟨h.resolve_left h3, ho⟩,
        fun ⟨h1, h2⟩ => let ⟨h, ho⟩ := hg.2 ⟨.inr h1, h2⟩; ⟨h, ho, fun e => hm (e ▸ h1)⟩⟩
  · exact fun n st hinv _ _ _ _ _ => ⟨hinv, OStep.refl _, nofun⟩
  · intro n st dep rest ih ih2 hinv cur hcur hl hgrey hfuel
    have hd := hl dep (List.mem_cons_self ..)
    have he : g.Edge cur (g.target dep) := ⟨dep, hd, rfl⟩
    obtain ⟨hinv1, hstep1, hmem1⟩ := ih hinv (hcur.snoc he) (hw.link hd).2
      (fun x hx hxo => (hgrey x hx hxo).snoc1 he) hfuel
    have hlen := hinv.v_nodup.length_le_of_subset fun x hx => hstep1.v_mono x hx
    obtain ⟨hinv2, hstep2, hall⟩ := ih2 hinv1 cur hcur (fun x hx => hl x (List.mem_cons_of_mem _ hx))
      (fun x hx hxo => have := (hstep1.grey x).1 ⟨hx, hxo⟩; hgrey x this.1 this.2) (by omega)
    exact ⟨hinv2, hstep1.trans hstep2,
      List.forall_mem_cons.2 ⟨hstep2.o_mono _ (hmem1 _ (List.mem_singleton_self _)), hall⟩⟩

/-- `provider_order_topo` for any graph without a cycle reachable from the root, however that is
known. -/
theorem providerOrder_spec {g : Graph} (hw : g.Wf) {root : Nat} (hlt : root < g.sources.length)
    (hac : ∀ a, g.Reach root a → ¬ g.Reach1 a a) :
    (providerOrder g root).Nodup ∧ (∀ a, a ∈ providerOrder g root ↔ g.Reach root a) ∧
      (providerOrder g root).getLast? = some root ∧
      ∀ (i j : Nat) (a b : Nat), (providerOrder g root)[i]? = some a → (providerOrder g root)[j]? = some b →
        g.Edge a b → j < i := by
  obtain ⟨hinv, -, hroot⟩ := (order_outcome hw hac).1 (g.sources.length + 1) ([], []) root
    ⟨nofun, List.nodup_nil, nofun, nofun, List.nodup_nil, by simp⟩ (.refl _) hlt nofun (by simp)
  have hlast : (providerOrder g root).getLast? = some root := by
    unfold providerOrder
    rw [orderVisit]
    simp
  have hclosed : ∀ x y, g.Reach x y → x ∈ providerOrder g root → y ∈ providerOrder g root := by
    intro x y hxy
    induction hxy with
    | refl a => exact id
    | step e _ ih =>
      intro hx
      obtain ⟨i, hi⟩ := List.mem_iff_getElem?.1 hx
      obtain ⟨j, -, hj⟩ := hinv.o_closed i _ hi _ e
      exact ih (List.mem_of_getElem? hj)
  refine ⟨hinv.o_nodup, fun a => ⟨fun ha => hinv.v_reach a (hinv.sub a ha),
    fun hr => hclosed root a hr (hroot root (List.mem_singleton_self _))⟩, hlast, ?_⟩
  intro i j a b hi hj e
  obtain ⟨j', hj', hjb⟩ := hinv.o_closed i a hi b e
  have := (List.getElem?_inj (List.getElem?_eq_some_iff.1 hj).1 hinv.o_nodup).1 (hj.trans hjb.symm)
  omega

end ZV.SourceGraph
