/-
On a well-formed graph the cycle detector (`detectVisit`/`detectDeps`, `detectCycle`) reports a
real cycle, or none is reachable from the root: `detectCycle_spec`.

`DetectOutcome` says what a call yields; `detect_outcome` proves it of both functions at once by the
induction principle Lean derives from their definition, one case per branch of the program text.
The invariant is white/grey/black (`CInv`): complete nodes are closed under edges, the active ones
are the path. A call that reports nothing restores the path and the dependency stack and leaves
marked nodes alone (`Frame`). Path and stack form a chain of real edges (`Chain`), so the stack from
the position of an active target on, with the edge back to it, is a closed walk. Fuel does not run
out: a nested visit spends one unit and lengthens the path by one, and the path is duplicate-free
and in range.
-/
import ZV.Proofs.SourceBasics

namespace ZV.SourceGraph

/-- The position the detector computes for an active target (`position(..).expect(..)` in
`graph.rs`) holds the target. -/
theorem getElem?_findIdx?_of_mem {α : Type} [BEq α] [LawfulBEq α] {t : α} {l : List α} (h : t ∈ l) :
    l[(l.findIdx? (· == t)).getD 0]? = some t := by
  cases hk : l.findIdx? (· == t) with
  | none => simpa using List.findIdx?_eq_none_iff.1 hk t h
  | some k =>
    obtain ⟨hlt, hp, -⟩ := List.findIdx?_eq_some_iff_getElem.1 hk
    simpa [List.getElem?_eq_getElem hlt] using hp

/- `detectVisit` and `detectDeps` change the detector in four ways, named below (`enter`, `leave`,
`pushDep`, `popDep`) and spelt as in the model, so that the model's terms are these by `rfl`. The
lemmas say what each does to `state`, `sources` and `deps`; nothing after them looks at the list
`states`. -/

theorem state_setState (d : Detector) (s : Nat) (v : VisitState) (x : Nat) :
    (d.setState s v).state x = if x = s then some v else d.state x := by
  show assoc ((s, v) :: d.states.filter (·.1 != s)) x = _
  rw [assoc_cons, assoc_filter_ne]
  by_cases hx : x = s
  · subst hx; rw [if_pos rfl, if_pos rfl]
  · rw [if_neg (fun e : s = x => hx e.symm), if_neg hx, if_neg hx]; rfl

theorem state_empty (x : Nat) : ({} : Detector).state x = none := rfl

def Detector.enter (d : Detector) (s : Nat) : Detector :=
  { (d.setState s .active) with sources := d.sources ++ [s] }

def Detector.leave (d : Detector) (s : Nat) : Detector :=
  { (d.setState s .complete) with sources := d.sources.dropLast }

def Detector.pushDep (d : Detector) (dep : Dep) : Detector := { d with deps := d.deps ++ [dep] }

def Detector.popDep (d : Detector) : Detector := { d with deps := d.deps.dropLast }

@[simp] theorem enter_sources (d : Detector) (s : Nat) : (d.enter s).sources = d.sources ++ [s] := rfl
@[simp] theorem enter_deps (d : Detector) (s : Nat) : (d.enter s).deps = d.deps := rfl
theorem enter_state (d : Detector) (s x : Nat) :
    (d.enter s).state x = if x = s then some .active else d.state x := state_setState d s .active x
@[simp] theorem leave_sources (d : Detector) (s : Nat) : (d.leave s).sources = d.sources.dropLast := rfl
@[simp] theorem leave_deps (d : Detector) (s : Nat) : (d.leave s).deps = d.deps := rfl
theorem leave_state (d : Detector) (s x : Nat) :
    (d.leave s).state x = if x = s then some .complete else d.state x := state_setState d s .complete x
@[simp] theorem pushDep_sources (d : Detector) (dep : Dep) : (d.pushDep dep).sources = d.sources := rfl
@[simp] theorem pushDep_deps (d : Detector) (dep : Dep) : (d.pushDep dep).deps = d.deps ++ [dep] := rfl
@[simp] theorem pushDep_state (d : Detector) (dep : Dep) (x : Nat) : (d.pushDep dep).state x = d.state x := rfl
@[simp] theorem popDep_sources (d : Detector) : d.popDep.sources = d.sources := rfl
@[simp] theorem popDep_deps (d : Detector) : d.popDep.deps = d.deps.dropLast := rfl
@[simp] theorem popDep_state (d : Detector) (x : Nat) : d.popDep.state x = d.state x := rfl

/-- The dependency stack links the DFS path. Said from every position `k` of the path, because the
cycle reported at an active target found at position `k` is the slice `deps.drop k`. -/
def Chain (g : Graph) (srcs : List Nat) (deps : List Dep) : Prop :=
  deps.length + 1 = srcs.length ∧
    ∀ k t, srcs[k]? = some t → ∃ last, srcs.getLast? = some last ∧ Walk g t (deps.drop k) last

theorem Chain.single (g : Graph) (a : Nat) : Chain g [a] [] := by
  refine ⟨rfl, fun k t hk => ?_⟩
  cases k with
  | zero => cases hk; exact ⟨_, rfl, .nil _⟩
  | succ k => simp at hk

theorem Chain.snoc {g : Graph} {srcs : List Nat} {deps : List Dep} {cur b : Nat} {e : Dep}
    (h : Chain g srcs deps) (hlast : srcs.getLast? = some cur) (hl : Link g e cur b) :
    Chain g (srcs ++ [b]) (deps ++ [e]) := by
  refine ⟨by simp [h.1], fun k t hk => ⟨b, by simp, ?_⟩⟩
  rcases getElem?_concat_eq_some.1 hk with hk | ⟨rfl, rfl⟩
  · obtain ⟨last, hl1, hw⟩ := h.2 k t hk
    cases hlast.symm.trans hl1
    have := (List.getElem?_eq_some_iff.1 hk).1
    rw [List.drop_append_of_le_length (by have := h.1; omega)]
    exact hw.snoc hl
  · rw [List.drop_eq_nil_of_le (by simp [← h.1])]
    exact .nil _

/-- What a call that reports nothing may change. -/
structure Frame (d d' : Detector) : Prop where
  sources : d'.sources = d.sources
  deps : d'.deps = d.deps
  marked : ∀ x, d.state x ≠ none → d'.state x = d.state x
  active : ∀ x, d'.state x = some .active → d.state x = some .active

theorem Frame.refl (d : Detector) : Frame d d := ⟨rfl, rfl, fun _ _ => rfl, fun _ h => h⟩

theorem Frame.trans {a b c : Detector} (h₁ : Frame a b) (h₂ : Frame b c) : Frame a c where
  sources := h₂.sources.trans h₁.sources
  deps := h₂.deps.trans h₁.deps
  marked x hx := (h₂.marked x (h₁.marked x hx ▸ hx)).trans (h₁.marked x hx)
  active x hx := h₁.active x (h₂.active x hx)

theorem Frame.popDep {d d' : Detector} {dep : Dep} (f : Frame (d.pushDep dep) d') : Frame d d'.popDep :=
  ⟨f.sources, by simp [f.deps], f.marked, f.active⟩

theorem Frame.leave {d d' : Detector} {s : Nat} (f : Frame (d.enter s) d') (hs : d.state s = none) :
    Frame d (d'.leave s) where
  sources := by simp [f.sources]
  deps := f.deps
  marked x hx := by
    have hxs : x ≠ s := fun e => hx (e ▸ hs)
    have h1 : (d.enter s).state x = d.state x := by rw [enter_state, if_neg hxs]
    rw [leave_state, if_neg hxs, f.marked x (h1 ▸ hx), h1]
  active x hx := by
    rw [leave_state] at hx
    split at hx
    · cases hx
    · next hxs => simpa [enter_state, hxs] using f.active x hx

/-- White/grey/black, with `complete` for black and the path `d.sources` for grey. -/
structure CInv (g : Graph) (d : Detector) : Prop where
  closed : ∀ x y, d.state x = some .complete → g.Edge x y → d.state y = some .complete
  nocyc : ∀ x, d.state x = some .complete → ¬ g.Reach1 x x
  path_active : ∀ x ∈ d.sources, d.state x = some .active
  path_nodup : d.sources.Nodup
  path_range : ∀ x ∈ d.sources, x < g.sources.length

theorem CInv.reach_complete {g : Graph} {d : Detector} (h : CInv g d) {x y : Nat}
    (hr : g.Reach x y) : d.state x = some .complete → d.state y = some .complete := by
  induction hr with
  | refl a => exact id
  | step e _ ih => exact fun hx => ih (h.closed _ _ hx e)

theorem CInv.enter {g : Graph} {d : Detector} (h : CInv g d) {s : Nat} (hs : d.state s = none)
    (hlt : s < g.sources.length) : CInv g (d.enter s) := by
  have hcomp : ∀ x, (d.enter s).state x = some .complete ↔ d.state x = some .complete := fun x => by
    rw [enter_state]
    split <;> simp [*]
  exact {
    closed := fun x y hx e => (hcomp y).2 (h.closed x y ((hcomp x).1 hx) e)
    nocyc := fun x hx => h.nocyc x ((hcomp x).1 hx)
    path_active := fun x hx => by
      rw [enter_state]
      split
      · rfl
      · next hxs => exact h.path_active x (by simpa [hxs] using hx)
    path_nodup := nodup_append_singleton.2 ⟨fun hm => by simpa [hs] using h.path_active s hm, h.path_nodup⟩
    path_range := List.forall_mem_append.2 ⟨h.path_range, List.forall_mem_singleton.2 hlt⟩ }

theorem CInv.leave {g : Graph} {d : Detector} {s : Nat} {p : List Nat} (h : CInv g d)
    (hsrc : d.sources = p ++ [s]) (hsucc : ∀ y, g.Edge s y → d.state y = some .complete) :
    CInv g (d.leave s) := by
  have hcomp : ∀ x, (d.leave s).state x = some .complete ↔ x = s ∨ d.state x = some .complete := fun x => by
    rw [leave_state]
    split <;> simp [*]
  have hnd := h.path_nodup
  rw [hsrc, nodup_append_singleton] at hnd
  exact {
    closed := fun x y hx e => (hcomp y).2 <| .inr <| by
      rcases (hcomp x).1 hx with rfl | hx
      · exact hsucc y e
      · exact h.closed x y hx e
    nocyc := fun x hx hcyc => by
      rcases (hcomp x).1 hx with rfl | hx
      · -- a cycle through `x` leaves it by an edge to a complete node, and `x` is still active
        obtain ⟨y, e, hr⟩ := hcyc.first
        have := h.reach_complete hr (hsucc y e)
        rw [h.path_active x (by simp [hsrc])] at this
        cases this
      · exact h.nocyc x hx hcyc
    path_active := fun x hx => by
      have hx' : x ∈ p := by simpa [hsrc] using hx
      rw [leave_state, if_neg fun (e : x = s) => hnd.1 (e ▸ hx')]
      exact h.path_active x (by simp [hsrc, hx'])
    path_nodup := h.path_nodup.sublist (List.dropLast_sublist _)
    path_range := fun x hx => h.path_range x (List.dropLast_subset _ hx) }

theorem CInv.deps {g : Graph} {d : Detector} (h : CInv g d) (deps : List Dep) : CInv g { d with deps } :=
  ⟨h.closed, h.nocyc, h.path_active, h.path_nodup, h.path_range⟩

/-- The detector is scanning the dependencies of `cur`. That every active node is on the path (`act`)
stands here and not in `CInv`: after a call it follows from `Frame.active`. -/
structure Scanning (g : Graph) (d : Detector) (cur : Nat) : Prop where
  inv : CInv g d
  act : ∀ x, d.state x = some .active → x ∈ d.sources
  chain : Chain g d.sources d.deps
  last : d.sources.getLast? = some cur

theorem Scanning.enter {g : Graph} {d : Detector} {s : Nat} (hinv : CInv g d)
    (hact : ∀ x, d.state x = some .active → x ∈ d.sources) (hch : Chain g (d.sources ++ [s]) d.deps)
    (hs : d.state s = none) (hlt : s < g.sources.length) : Scanning g (d.enter s) s := by
  refine ⟨hinv.enter hs hlt, fun x hx => ?_, hch, by simp⟩
  rw [enter_state] at hx
  split at hx
  · simp [*]
  · exact List.mem_append_left _ (hact x hx)

theorem Scanning.descend {g : Graph} (hw : g.Wf) {d : Detector} {cur : Nat} (h : Scanning g d cur)
    {dep : Dep} (hd : dep ∈ g.dependencies cur) (hs : d.state (g.target dep) = none) :
    Scanning g ((d.pushDep dep).enter (g.target dep)) (g.target dep) :=
  .enter (h.inv.deps _) h.act (h.chain.snoc h.last (hw.link hd).1) hs (hw.link hd).2

theorem Scanning.of_frame {g : Graph} {d d' : Detector} {cur : Nat} (h : Scanning g d cur)
    (f : Frame d d') (hinv : CInv g d') : Scanning g d' cur :=
  ⟨hinv, fun x hx => f.sources ▸ h.act x (f.active x hx), by rw [f.sources, f.deps]; exact h.chain,
    f.sources ▸ h.last⟩

def DetectOutcome (g : Graph) (d : Detector) (done : List Nat) : Detector × Option (List Dep) → Prop
  | (_, some c) => g.IsCycle c
  | (d', none) => Frame d d' ∧ CInv g d' ∧ ∀ t ∈ done, d'.state t = some .complete

theorem DetectOutcome.cons {g : Graph} {d₁ d₂ : Detector} {l : List Nat} {t : Nat}
    {r : Detector × Option (List Dep)} (h : DetectOutcome g d₂ l r) (f : Frame d₁ d₂)
    (ht : d₂.state t = some .complete) : DetectOutcome g d₁ (t :: l) r := by
  obtain ⟨d', _ | c⟩ := r
  · obtain ⟨f2, hinv, hall⟩ := h
    exact ⟨f.trans f2, hinv, List.forall_mem_cons.2 ⟨by rw [f2.marked t (by simp [ht]), ht], hall⟩⟩
  · exact h

/-- The hypotheses speak of `d.enter s`, the state from which `detectVisit` scans, because the root
is visited from the empty detector, which is scanning nothing. -/
def VisitOk (g : Graph) (n : Nat) (d : Detector) (s : Nat) (r : Detector × Option (List Dep)) : Prop :=
  d.state s = none → Scanning g (d.enter s) s → g.sources.length + 1 < n + (d.enter s).sources.length →
    DetectOutcome g d [s] r

def DepsOk (g : Graph) (n : Nat) (d : Detector) (l : List Dep) (r : Detector × Option (List Dep)) : Prop :=
  ∀ cur, Scanning g d cur → (∀ dep ∈ l, dep ∈ g.dependencies cur) →
    g.sources.length + 1 ≤ n + d.sources.length → DetectOutcome g d (l.map g.target) r

theorem detect_outcome {g : Graph} (hw : g.Wf) :
    (∀ n d s, VisitOk g n d s (detectVisit g n d s)) ∧ ∀ n d l, DepsOk g n d l (detectDeps g n d l) := by
  -- one case for each branch of `detectVisit` (3), then of `detectDeps` (5), in the order of the text
  refine detectVisit.mutual_induct_unfolding g (VisitOk g) (DepsOk g) ?_ ?_ ?_ ?_ ?_ ?_ ?_ ?_
  · -- no fuel left: impossible, the path is duplicate-free and in range
    intro d s _ hsc hfuel
    have := length_le_of_nodup_lt hsc.inv.path_nodup hsc.inv.path_range
    omega
  · intro n d s d1 d2 c heq ih _ hsc hfuel
    exact (heq ▸ ih) s hsc (fun _ h => h) (by have : _ < n + 1 + d1.sources.length := hfuel; omega)
  · intro n d s d1 d2 heq ih hs hsc hfuel
    obtain ⟨f, hinv2, hall⟩ := (heq ▸ ih) s hsc (fun _ h => h)
      (by have : _ < n + 1 + d1.sources.length := hfuel; omega)
    exact ⟨f.leave hs, hinv2.leave (by simpa using f.sources)
      fun y ⟨dep, hdep, e⟩ => e ▸ hall _ (List.mem_map_of_mem hdep),
      List.forall_mem_singleton.2 ((leave_state d2 s s).trans (if_pos rfl))⟩
  · exact fun n d cur hsc _ _ => ⟨Frame.refl d, hsc.inv, nofun⟩
  · -- active target: it is on the path, and the stack from its position closes through `dep`
    intro n d dep rest target hs start cur hsc hl _
    obtain ⟨last, hl1, hwk⟩ := hsc.chain.2 start _ (getElem?_findIdx?_of_mem (hsc.act _ hs))
    cases hsc.last.symm.trans hl1
    exact hwk.isCycle (hw.link (hl dep (List.mem_cons_self ..))).1
  · intro n d dep rest target hs ih cur hsc hl hfuel
    exact (ih cur hsc (fun x hx => hl x (List.mem_cons_of_mem _ hx)) hfuel).cons (Frame.refl d) hs
  · intro n d dep rest target hs d1 c heq ih cur hsc hl hfuel
    exact (heq ▸ ih) hs (hsc.descend hw (hl dep (List.mem_cons_self ..)) hs) (by simp; omega)
  · intro n d dep rest target hs d1 heq ih ih2 cur hsc hl hfuel
    obtain ⟨f, hinv1, hc1⟩ := (heq ▸ ih) hs (hsc.descend hw (hl dep (List.mem_cons_self ..)) hs)
      (by simp; omega)
    have f' := f.popDep
    exact (ih2 cur (hsc.of_frame f' (hinv1.deps _)) (fun x hx => hl x (List.mem_cons_of_mem _ hx))
      (f'.sources ▸ hfuel)).cons f' (hc1 _ (List.mem_singleton_self _))

/-- `cycle_sound` and `cycle_complete` in one statement. -/
theorem detectCycle_spec {g : Graph} (hw : g.Wf) {root : Nat} (hlt : root < g.sources.length) :
    match detectCycle g root with
    | some c => g.IsCycle c
    | none => ∀ a, g.Reach root a → ¬ g.Reach1 a a := by
  have := (detect_outcome hw).1 (g.sources.length + 1) {} root rfl
    (.enter ⟨nofun, nofun, nofun, List.nodup_nil, nofun⟩ nofun (Chain.single g root) rfl hlt) (by simp)
  unfold detectCycle
  generalize detectVisit g _ {} root = r at this
  obtain ⟨d, _ | c⟩ := r
  · obtain ⟨-, hinv, hroot⟩ := this
    exact fun a hr => hinv.nocyc a (hinv.reach_complete hr (hroot root (List.mem_singleton_self _)))
  · exact this

end ZV.SourceGraph
