/-
Width-generic facts about the `BitVec` carriers of `ZV/Model/Numeric.lean`: the unsigned reading of
a result as the operation on the unsigned readings, when a carrier denotes zero, and `val_eq_wrap`,
which turns a computation in the two readings into one statement about `val` and `wrap`.
-/
import ZV.Model.Numeric

namespace ZV.Numeric

/-- Every width is at least 1, so `2 ^ width` is twice `2 ^ (width - 1)`: with it the range and
wrap-around facts are linear arithmetic at any width. -/
theorem two_pow_width (t : IntTy) : (2 : Int) ^ t.width = 2 * 2 ^ (t.width - 1) := by
  cases t <;> rfl

theorem natCast_two_pow (w : Nat) : ((2 ^ w : Nat) : Int) = 2 ^ w := by simp

theorem toNat_add_int {w} (x y : BitVec w) :
    ((x + y).toNat : Int) = ((x.toNat : Int) + y.toNat) % (2 ^ w : Int) := by
  rw [BitVec.toNat_add]; norm_cast

theorem toNat_mul_int {w} (x y : BitVec w) :
    ((x * y).toNat : Int) = ((x.toNat : Int) * y.toNat) % (2 ^ w : Int) := by
  rw [BitVec.toNat_mul]; norm_cast

theorem toNat_sub_int {w} (x y : BitVec w) :
    ((x - y).toNat : Int) = ((x.toNat : Int) - y.toNat) % (2 ^ w : Int) := by
  rw [BitVec.toNat_sub]
  have hy := y.isLt
  have : ((2 ^ w - y.toNat + x.toNat : Nat) : Int) = ((x.toNat : Int) - y.toNat) + (2 ^ w : Int) := by
    rw [Int.natCast_add, Int.natCast_sub (Nat.le_of_lt hy)]
    simp
    omega
  rw [Int.natCast_emod, this]
  simp

theorem toNat_udiv_int {w} (x y : BitVec w) :
    ((x / y).toNat : Int) = (Int.tdiv (x.toNat : Int) y.toNat) % (2 ^ w : Int) := by
  rw [BitVec.toNat_udiv, ← Int.ofNat_tdiv, Int.emod_eq_of_lt (Int.natCast_nonneg _)]
  exact_mod_cast Nat.lt_of_le_of_lt (Nat.div_le_self _ _) x.isLt

theorem toNat_umod_int {w} (x y : BitVec w) :
    ((x % y).toNat : Int) = Int.tmod (x.toNat : Int) y.toNat := by
  rw [BitVec.toNat_umod, Int.ofNat_tmod]

theorem eq_zero_iff_val (t : IntTy) (b : BitVec t.width) : b = 0 ↔ val t b = 0 := by
  refine ⟨fun h => by subst h; simp [val], fun h => ?_⟩
  unfold val at h
  split at h
  · exact BitVec.eq_of_toInt_eq (by simpa using h)
  · exact BitVec.eq_of_toNat_eq (by simp; omega)

theorem arith_eq_trap (t : IntTy) (op : AOp) (a b : BitVec t.width) :
    arith t op a b = .trap ↔ (op = .div ∨ op = .rem) ∧ b = 0 := by
  cases op <;> simp [arith]

theorem val_ofInt (t : IntTy) (z : Int) : val t (BitVec.ofInt t.width z) = wrap t z := by
  unfold val wrap
  split
  · exact BitVec.toInt_ofInt _
  · rw [BitVec.toNat_ofInt,
      Int.toNat_of_nonneg (Int.emod_nonneg _ (by exact_mod_cast Nat.ne_of_gt (Nat.two_pow_pos _))),
      natCast_two_pow]

/-- The value of a result computed in both representations: `f` on the signed readings modulo
`2 ^ width` (balanced), on the unsigned readings modulo `2 ^ width`. -/
theorem val_eq_wrap {t : IntTy} {a b r : BitVec t.width} (f : Int → Int → Int)
    (hs : t.signed = true → r.toInt = (f a.toInt b.toInt).bmod (2 ^ t.width))
    (hu : t.signed = false → (r.toNat : Int) = f a.toNat b.toNat % 2 ^ t.width) :
    val t r = wrap t (f (val t a) (val t b)) := by
  unfold val wrap
  cases h : t.signed
  · exact hu h
  · exact hs h

end ZV.Numeric
