/-
The source graph before any traversal of it: how `Graph.Reach` and `Graph.Reach1` compose with an
edge; that in a well-formed graph every listed dependency is an edge from its lister to a node in
range (`Graph.Wf.link`); paths with their edges listed (`Walk`), a closed one of which is a cycle
in the sense of `Graph.IsCycle`. First, two facts about lists that the proofs about the cycle
detector, the provider order and the loader share.
-/
import ZV.Model.SourceGraph
import ZV.Model.SourceGraphSpec
import ZV.Proofs.Assoc

namespace ZV.SourceGraph

theorem getElem?_concat_eq_some {α : Type} {l : List α} {a x : α} {i : Nat} :
    (l ++ [a])[i]? = some x ↔ l[i]? = some x ∨ i = l.length ∧ a = x := by
  rcases Nat.lt_trichotomy i l.length with h | rfl | h
  · simp [List.getElem?_append_left h, Nat.ne_of_lt h]
  · simp
  · have h1 : l[i]? = none := List.getElem?_eq_none (Nat.le_of_lt h)
    have h2 : (l ++ [a])[i]? = none := List.getElem?_eq_none (by simp; omega)
    simp [h1, h2, Nat.ne_of_gt h]

theorem Graph.Reach1.reach {g : Graph} {a b : Nat} (h : g.Reach1 a b) : g.Reach a b := by
  induction h with
  | one e => exact .step e (.refl _)
  | step e _ ih => exact .step e ih

theorem Graph.Reach.snoc1 {g : Graph} {a b c : Nat} (h : g.Reach a b) (e : g.Edge b c) : g.Reach1 a c := by
  induction h with
  | refl a => exact .one e
  | step e' _ ih => exact .step e' (ih e)

theorem Graph.Reach.snoc {g : Graph} {a b c : Nat} (h : g.Reach a b) (e : g.Edge b c) : g.Reach a c :=
  (h.snoc1 e).reach

theorem Graph.Reach1.first {g : Graph} {a b : Nat} (h : g.Reach1 a b) : ∃ y, g.Edge a y ∧ g.Reach y b := by
  cases h with
  | one e => exact ⟨_, e, .refl _⟩
  | step e h' => exact ⟨_, e, h'.reach⟩

def Link (g : Graph) (e : Dep) (a b : Nat) : Prop :=
  g.origin e = a ∧ g.target e = b ∧ e ∈ g.dependencies a

theorem Graph.Wf.link {g : Graph} (hw : g.Wf) {s : Nat} {dep : Dep} (h : dep ∈ g.dependencies s) :
    Link g dep s (g.target dep) ∧ g.target dep < g.sources.length := by
  suffices g.origin dep = s ∧ g.target dep < g.sources.length from ⟨⟨this.1, rfl, h⟩, this.2⟩
  have h' := h
  unfold Graph.dependencies at h'
  cases hn : g.sources[s]? with
  | none => simp [hn] at h'
  | some n =>
    rcases List.mem_append.1 (hn ▸ h') with h' | h'
    · cases hsig : n.signature with
      | none => simp [hsig] at h'
      | some t =>
        cases List.mem_singleton.1 (hsig ▸ h')
        exact ⟨rfl, hw.sig_range s n t hn hsig⟩
    · obtain ⟨i, hi, rfl⟩ := List.mem_map.1 h'
      obtain ⟨b, hb⟩ := hw.listed_range s n hn i hi
      simp [Graph.origin, Graph.target, hb, (hw.import_range i s b hb).2]

inductive Walk (g : Graph) : Nat → List Dep → Nat → Prop
  | nil (a : Nat) : Walk g a [] a
  | cons {e : Dep} {a b c : Nat} {l : List Dep} : Link g e a b → Walk g b l c → Walk g a (e :: l) c

theorem Walk.snoc {g : Graph} {a b c : Nat} {l : List Dep} {e : Dep} (h : Walk g a l b)
    (hl : Link g e b c) : Walk g a (l ++ [e]) c := by
  induction h with
  | nil a => exact .cons hl (.nil _)
  | cons hl' _ ih => exact .cons hl' (ih hl)

theorem Walk.mem_dependencies {g : Graph} {a b : Nat} {l : List Dep} (h : Walk g a l b) :
    ∀ d ∈ l, d ∈ g.dependencies (g.origin d) := by
  induction h with
  | nil a => nofun
  | cons hl _ ih => exact List.forall_mem_cons.2 ⟨hl.1.symm ▸ hl.2.2, ih⟩

theorem Walk.head_origin {g : Graph} {a b : Nat} {l : List Dep} (h : Walk g a l b) :
    ∀ e, l.head? = some e → g.origin e = a := by
  cases h with
  | nil a => nofun
  | cons hl _ => rintro _ ⟨⟩; exact hl.1

theorem Walk.consecutive {g : Graph} {a b : Nat} {l : List Dep} (h : Walk g a l b) :
    ∀ (i : Nat) (d e : Dep), l[i]? = some d → l[i + 1]? = some e → g.target d = g.origin e := by
  induction h with
  | nil a => nofun
  | cons hl hw ih =>
    intro i d e hd he
    cases i with
    | zero =>
      cases hd
      exact hl.2.1.trans (hw.head_origin e (List.head?_eq_getElem? ▸ he)).symm
    | succ i => exact ih i d e hd he

/-- The shape is that of the detector's report: the stack from the target's position on, then the
edge back to the target. -/
theorem Walk.isCycle {g : Graph} {a b : Nat} {l : List Dep} {e : Dep} (h : Walk g a l b)
    (hl : Link g e b a) : g.IsCycle (l ++ [e]) := by
  have hw := h.snoc hl
  refine ⟨by simp, hw.mem_dependencies, hw.consecutive, fun d e' hd he => ?_⟩
  cases List.getLast?_concat.symm.trans hd
  rw [hl.2.1, hw.head_origin e' he]

end ZV.SourceGraph
