/-
The invariant behind C19's "no lookup failure": every code address inside a run-time value has a
block in the table (`wfRV`), and the environment binds what the scope check took as bound
(`EnvOK`). A step keeps it (`step_good`) for any table whose blocks pass the scope check on their
own label (`ScopeOK`) and that contains the blocks nested in its blocks (`Closed`), and a state
that has it fails no lookup (`runFrom_good`). `validate` checks the first (`validate_iff`); the
second holds of the table of any term, by the induction over such tables (`blocksC_build`) that
`SpsLowFree.lean` uses again.
-/
import ZV.Model.SpsLow
import ZV.Proofs.Assoc

namespace ZV.SpsLow

/-- The table of a term is built from the empty table by appending tables and by putting a block in
front of the table of its body; what these three steps preserve holds of `blocksC c`. -/
structure Builds (P : Table → Prop) : Prop where
  nil : P []
  append : ∀ {a b}, P a → P b → P (a ++ b)
  block : ∀ {l body}, P (blocksC body) → P ((l, body) :: blocksC body)

section
variable {P : Table → Prop} (h : Builds P)
include h

mutual
theorem blocksV_build : ∀ v, P (blocksV v)
  | .block _ body => h.block (blocksC_build body)
  | .closure e c => h.append (blocksV_build e) (blocksV_build c)
  | .ctor _ a => blocksV_build a
  | .vcons items _ => blocksVs_build items
  | .complex _ args => blocksVs_build args
  | .hole | .var _ | .triv | .lit _ => h.nil
theorem blocksVs_build : ∀ vs, P (blocksVs vs)
  | [] => h.nil
  | v :: vs => h.append (blocksV_build v) (blocksVs_build vs)
theorem blocksS_build : ∀ s, P (blocksS s)
  | .bullet => h.nil
  | .arg v rest => h.append (blocksV_build v) (blocksS_build rest)
  | .tag _ rest => blocksS_build rest
  | .kont c r => h.append (blocksV_build c) (blocksS_build r)
theorem blocksC_build : ∀ c, P (blocksC c)
  | .hole s => blocksS_build s
  | .jump t s => h.append (blocksV_build t) (blocksS_build s)
  | .prodMatch v _ b => h.append (blocksV_build v) (blocksC_build b)
  | .coprodMatch v arms => h.append (blocksV_build v) (blocksArms_build arms)
  | .letValue _ v b => h.append (blocksV_build v) (blocksC_build b)
  | .letStack s b => h.append (blocksS_build s) (blocksC_build b)
  | .letArg _ s b => h.append (blocksS_build s) (blocksC_build b)
  | .coCase s arms => h.append (blocksS_build s) (blocksCoArms_build arms)
  | .openClosure v _ _ b => h.append (blocksV_build v) (blocksC_build b)
  | .openKont s _ b => h.append (blocksS_build s) (blocksC_build b)
  | .extern _ _ s => blocksS_build s
theorem blocksArms_build : ∀ arms, P (blocksArms arms)
  | [] => h.nil
  | (_, b) :: rest => h.append (blocksC_build b) (blocksArms_build rest)
theorem blocksCoArms_build : ∀ arms, P (blocksCoArms arms)
  | [] => h.nil
  | (_, b) :: rest => h.append (blocksC_build b) (blocksCoArms_build rest)
end
end

def Closed (t : Table) : Prop := ∀ lb ∈ t, ∀ lb' ∈ blocksC lb.2, lb' ∈ t

theorem blocksC_closed (c : Comp) : Closed (blocksC c) :=
  blocksC_build (c := c) {
    nil := nofun
    append := by
      intro a b ha hb lb h lb' h'
      rcases List.mem_append.1 h with h | h
      · exact List.mem_append_left _ (ha lb h lb' h')
      · exact List.mem_append_right _ (hb lb h lb' h')
    block := by
      intro l body hb lb h lb' h'
      rcases List.mem_cons.1 h with rfl | h
      · exact List.mem_cons_of_mem _ h'
      · exact List.mem_cons_of_mem _ (hb lb h lb' h') }

theorem nodupNat_iff : ∀ (l : List Nat), nodupNat l = true ↔ l.Nodup
  | [] => by simp [nodupNat]
  | x :: xs => by
    rw [nodupNat, Bool.and_eq_true, nodupNat_iff xs, List.nodup_cons]
    simp

def ScopeOK (t : Table) : Prop := ∀ lb ∈ t, scopeC [lb.1] lb.2 = true

/-- The fourth clause of `validate`, nested blocks in the table, holds of every program
(`blocksC_closed`) and is left out. -/
theorem validate_iff (p : Program) : validate p = true ↔
    p.blocks.labels.Nodup ∧ scopeC [] p.root = true ∧ ScopeOK p.blocks ∧
      joinsC false p.root = true := by
  have h4 : (p.blocks.all fun lb => (blocksC lb.2).all fun lb' => p.blocks.labels.contains lb'.1)
      = true := by
    simp only [List.all_eq_true, List.contains_iff_mem]
    exact fun lb hm lb' hm' => List.mem_map_of_mem (blocksC_closed p.root lb hm lb' hm')
  simp only [validate, h4, Bool.and_true, Bool.and_eq_true, List.all_eq_true, and_assoc, ScopeOK,
    nodupNat_iff]

mutual
  def wfRV (tbl : Table) : RV → Prop
    | .code l => l ∈ tbl.labels
    | .haltCode => True
    | .foldCode => True
    | .foldEnv _ ke ki => wfRV tbl ke ∧ wfRV tbl ki
    | .closure e c => wfRV tbl e ∧ wfRV tbl c
    | .ctor _ a => wfRV tbl a
    | .triv => True
    | .prod fs => wfRVs tbl fs
    | .lit _ => True
    | .bytes _ => True
    | .reader _ => True
    | .writer _ => True
  def wfRVs (tbl : Table) : List RV → Prop
    | [] => True
    | v :: vs => wfRV tbl v ∧ wfRVs tbl vs
end

theorem wfRVs_iff (tbl : Table) : ∀ vs, wfRVs tbl vs ↔ ∀ v ∈ vs, wfRV tbl v := by
  intro vs
  induction vs with
  | nil => simp [wfRVs]
  | cons v vs ih => simp [wfRVs, ih]

def wfFrame (tbl : Table) : Frame → Prop
  | .arg v => wfRV tbl v
  | .tag _ => True
  | .kont c => wfRV tbl c

def wfStack (tbl : Table) (σ : RStack) : Prop := ∀ f ∈ σ, wfFrame tbl f

theorem wfStack_cons {tbl : Table} {f : Frame} {σ : RStack} :
    wfStack tbl (f :: σ) ↔ wfFrame tbl f ∧ wfStack tbl σ := List.forall_mem_cons

def EnvOK (tbl : Table) (ρ : Env) (bound : List Nat) : Prop :=
  (∀ x ∈ bound, x ∈ ρ.map (·.1)) ∧ ∀ xv ∈ ρ, wfRV tbl xv.2

theorem EnvOK.nil {tbl : Table} : EnvOK tbl [] [] := ⟨nofun, nofun⟩

theorem EnvOK.get {tbl : Table} {ρ : Env} {bound : List Nat} {x : Nat} (h : EnvOK tbl ρ bound)
    (hx : x ∈ bound) : ∃ v, ρ.get? x = some v ∧ wfRV tbl v := by
  obtain ⟨v, hv⟩ := Option.isSome_iff_exists.1 (assoc_isSome.2 (h.1 x hx))
  exact ⟨v, hv, h.2 _ (mem_of_assoc hv)⟩

theorem EnvOK.bind {tbl : Table} {ρ : Env} {bound : List Nat} {x : Nat} {v : RV}
    (h : EnvOK tbl ρ bound) (hv : wfRV tbl v) : EnvOK tbl (ρ.bind x v) (x :: bound) :=
  ⟨List.forall_mem_cons.2 ⟨List.mem_cons_self .., fun y hy => List.mem_cons_of_mem _ (h.1 y hy)⟩,
    List.forall_mem_cons.2 ⟨hv, h.2⟩⟩

def labelsIn (tbl : Table) (t : Table) : Prop := ∀ lb ∈ t, lb.1 ∈ tbl.labels

theorem labelsIn.left {tbl a b} (h : labelsIn tbl (a ++ b)) : labelsIn tbl a :=
  (List.forall_mem_append.1 h).1
theorem labelsIn.right {tbl a b} (h : labelsIn tbl (a ++ b)) : labelsIn tbl b :=
  (List.forall_mem_append.1 h).2

theorem labelsIn_nil (tbl) : labelsIn tbl [] := nofun

def NotLookup (s : Stuck) : Prop := (∀ l, s ≠ .unknownLabel l) ∧ (∀ x, s ≠ .unbound x)

theorem notLookup_of_ne {s : Stuck} (h1 : ∀ l, s ≠ .unknownLabel l) (h2 : ∀ x, s ≠ .unbound x) :
    NotLookup s := ⟨h1, h2⟩

def Stuck.isLookup : Stuck → Bool
  | .unknownLabel _ | .unbound _ => true
  | _ => false

theorem notLookup_of_isLookup {s : Stuck} (h : s.isLookup = false) : NotLookup s := by
  constructor <;> (rintro _ rfl; cases h)

def ExGood {α : Type} (P : α → Prop) : Except Stuck α → Prop
  | .ok a => P a
  | .error s => NotLookup s

theorem ExGood.bind {α β : Type} {P : α → Prop} {Q : β → Prop} {x : Except Stuck α}
    {f : α → Except Stuck β} (hx : ExGood P x) (hf : ∀ a, P a → ExGood Q (f a)) :
    ExGood Q (x >>= f) := by
  cases x with
  | ok a => exact hf a hx
  | error e => exact hx

theorem ExGood.mono {α : Type} {P Q : α → Prop} {x : Except Stuck α}
    (hx : ExGood P x) (hf : ∀ a, P a → Q a) : ExGood Q x := by
  cases x with
  | ok a => exact hf a hx
  | error e => exact hx

theorem packFields_good (tbl : Table) (vs : List RV) (n : Nat) (h : wfRVs tbl vs) :
    ExGood (wfRVs tbl) (packFields vs n) := by
  unfold packFields
  split
  · exact h
  · split
    · split
      · next fs hl =>
        split
        · rw [wfRVs_iff] at h
          exact (wfRVs_iff ..).2 (List.forall_mem_append.2
            ⟨fun v hv => h v (List.dropLast_subset _ hv),
              (wfRVs_iff ..).1 (h _ (List.mem_of_getLast? hl))⟩)
        · exact notLookup_of_isLookup rfl
      · exact notLookup_of_isLookup rfl
    · exact notLookup_of_isLookup rfl

theorem and_left {a b : Bool} (h : (a && b) = true) : a = true := (Bool.and_eq_true_iff.1 h).1
theorem and_right {a b : Bool} (h : (a && b) = true) : b = true := (Bool.and_eq_true_iff.1 h).2

section
variable {tbl : Table} {ρ : Env} {bound : List Nat}

mutual
theorem evalVal_good (he : EnvOK tbl ρ bound) :
    ∀ v, scopeV bound v = true → labelsIn tbl (blocksV v) → ExGood (wfRV tbl) (evalVal ρ v)
  | .hole, _, _ => notLookup_of_isLookup rfl
  | .var x, hs, _ => by
    obtain ⟨w, hw, hwf⟩ := he.get (List.contains_iff_mem.1 hs)
    rw [evalVal, hw]
    exact hwf
  | .block l body, _, hl => hl (l, body) (List.mem_cons_self ..)
  | .closure e c, hs, hl =>
    (evalVal_good he e (and_left hs) hl.left).bind fun _ he' =>
      (evalVal_good he c (and_right hs) hl.right).bind fun _ hc' => And.intro he' hc'
  | .ctor _ a, hs, hl => (evalVal_good he a hs hl).bind fun _ ha' => ha'
  | .triv, _, _ => trivial
  | .vcons items n, hs, hl =>
    (evalVals_good he items hs hl).bind fun vs hvs =>
      (packFields_good tbl vs n hvs).bind fun _ hfs => hfs
  | .lit _, _, _ => trivial
  | .complex _ _, _, _ => notLookup_of_isLookup rfl
theorem evalVals_good (he : EnvOK tbl ρ bound) :
    ∀ vs, scopeVs bound vs = true → labelsIn tbl (blocksVs vs) → ExGood (wfRVs tbl) (evalVals ρ vs)
  | [], _, _ => trivial
  | v :: vs, hs, hl =>
    (evalVal_good he v (and_left hs) hl.left).bind fun _ hx =>
      (evalVals_good he vs (and_right hs) hl.right).bind fun _ hxs => And.intro hx hxs
end

theorem evalStk_good (he : EnvOK tbl ρ bound) {σ : RStack} (hσ : wfStack tbl σ) :
    ∀ s, scopeS bound s = true → labelsIn tbl (blocksS s) → ExGood (wfStack tbl) (evalStk ρ σ s)
  | .bullet, _, _ => hσ
  | .arg v rest, hs, hl =>
    (evalVal_good he v (and_left hs) hl.left).bind fun _ hx =>
      (evalStk_good he hσ rest (and_right hs) hl.right).bind fun _ hr => wfStack_cons.2 ⟨hx, hr⟩
  | .tag _ rest, hs, hl =>
    (evalStk_good he hσ rest hs hl).bind fun _ hr => wfStack_cons.2 ⟨trivial, hr⟩
  | .kont c rest, hs, hl =>
    (evalVal_good he c (and_left hs) hl.left).bind fun _ hx =>
      (evalStk_good he hσ rest (and_right hs) hl.right).bind fun _ hr => wfStack_cons.2 ⟨hx, hr⟩

end

def MatchGood (tbl : Table) (bound : List Nat) : MatchRes → Prop
  | .ok ρ' => EnvOK tbl ρ' bound
  | .fail => True
  | .stuck s => NotLookup s

/-- a second match, made under the bindings of a first -/
theorem MatchGood.seq {tbl : Table} {vs₁ vs₂ bound : List Nat} {r : MatchRes}
    (h : MatchGood tbl (vs₂ ++ (vs₁ ++ bound)) r) : MatchGood tbl ((vs₁ ++ vs₂) ++ bound) r := by
  cases r with
  | ok ρ' =>
    refine ⟨fun x hx => h.1 x ?_, h.2⟩
    simpa only [List.mem_append, or_assoc, or_left_comm] using hx
  | _ => exact h

theorem Pat.varsL_singleton (p : Pat) : Pat.varsL [p] = p.vars := by
  rw [Pat.varsL, Pat.varsL, List.append_nil]

mutual
theorem matchPat_good {tbl : Table} :
    ∀ (p : Pat) (v : RV) (ρ : Env) (bound : List Nat), wfRV tbl v → EnvOK tbl ρ bound →
      MatchGood tbl (p.vars ++ bound) (matchPat p v ρ)
  | .hole, _, _, _, _, he => he
  | .var _, _, _, _, hv, he => he.bind hv
  | .ctor idx p, v, ρ, bound, hv, he => by
    cases v with
    | ctor idx' w =>
      rw [matchPat]
      split
      · exact matchPat_good p w ρ bound hv he
      · trivial
    | _ => exact notLookup_of_isLookup rfl
  | .alias items, v, ρ, bound, hv, he => matchAll_good items v ρ bound hv he
  | .triv, v, _, _, _, he => by
    cases v with
    | triv => exact he
    | _ => trivial
  | .vcons items arity, v, ρ, bound, hv, he => by
    cases v with
    | prod fields =>
      rw [matchPat]
      split
      · exact matchFields_good items fields ρ bound hv he
      · exact notLookup_of_isLookup rfl
    | _ => exact notLookup_of_isLookup rfl
theorem matchFields_good {tbl : Table} :
    ∀ (ps : List Pat) (fs : List RV) (ρ : Env) (bound : List Nat), wfRVs tbl fs → EnvOK tbl ρ bound →
      MatchGood tbl (Pat.varsL ps ++ bound) (matchFields ps fs ρ)
  | [], [], _, _, _, he => he
  | [], _ :: _, _, _, _, _ => notLookup_of_isLookup rfl
  | _ :: _, [], _, _, _, _ => notLookup_of_isLookup rfl
  | [p], [f], ρ, bound, hv, he => by
    rw [Pat.varsL_singleton]
    exact matchPat_good p f ρ bound hv.1 he
  | [p], f :: g :: fs, ρ, bound, hv, he => by
    rw [Pat.varsL_singleton]
    exact matchPat_good p (.prod (f :: g :: fs)) ρ bound hv he
  | p :: q :: ps, f :: fs, ρ, bound, hv, he => by
    rw [matchFields]
    match matchPat p f ρ, matchPat_good p f ρ bound hv.1 he with
    | .ok ρ', h1 => exact (matchFields_good (q :: ps) fs ρ' _ hv.2 h1).seq
    | .fail, _ => trivial
    | .stuck _, h1 => exact h1
theorem matchAll_good {tbl : Table} :
    ∀ (ps : List Pat) (v : RV) (ρ : Env) (bound : List Nat), wfRV tbl v → EnvOK tbl ρ bound →
      MatchGood tbl (Pat.varsL ps ++ bound) (matchAll ps v ρ)
  | [], _, _, _, _, he => he
  | p :: ps, v, ρ, bound, hv, he => by
    rw [matchAll]
    match matchPat p v ρ, matchPat_good p v ρ bound hv he with
    | .ok ρ', h1 => exact (matchAll_good ps v ρ' _ hv h1).seq
    | .fail, _ => trivial
    | .stuck _, h1 => exact h1
end

theorem matchExpect_good {tbl : Table} {v : RV} {ρ : Env} {bound : List Nat} (p : Pat)
    (hv : wfRV tbl v) (he : EnvOK tbl ρ bound) :
    ExGood (fun ρ' => EnvOK tbl ρ' (p.vars ++ bound)) (matchExpect p v ρ) := by
  unfold matchExpect
  match matchPat p v ρ, matchPat_good p v ρ bound hv he with
  | .ok _, h => exact h
  | .fail, _ => exact notLookup_of_isLookup rfl
  | .stuck _, h => exact h

def CompInv (tbl : Table) (c : Comp) (ρ : Env) : Prop :=
  ∃ bound, scopeC bound c = true ∧ EnvOK tbl ρ bound ∧ labelsIn tbl (blocksC c)

theorem findArm_good {tbl : Table} {v : RV} {ρ : Env} {bound : List Nat}
    (hv : wfRV tbl v) (he : EnvOK tbl ρ bound) :
    ∀ arms, scopeArms bound arms = true → labelsIn tbl (blocksArms arms) →
      ExGood (fun r => CompInv tbl r.1 r.2) (findArm v ρ arms)
  | [], _, _ => notLookup_of_isLookup rfl
  | (p, body) :: rest, hs, hl => by
    rw [findArm]
    match matchPat p v ρ, matchPat_good p v ρ bound hv he with
    | .ok _, h => exact ⟨_, and_left hs, h, hl.left⟩
    | .fail, _ => exact findArm_good hv he rest (and_right hs) hl.right
    | .stuck _, h => exact h

theorem coArm_good {tbl : Table} {bound : List Nat} {ib : Nat × Comp} :
    ∀ arms, ib ∈ arms → scopeCoArms bound arms = true → labelsIn tbl (blocksCoArms arms) →
      scopeC bound ib.2 = true ∧ labelsIn tbl (blocksC ib.2)
  | (_, _) :: rest, hm, hs, hl => by
    rcases List.mem_cons.1 hm with rfl | hm
    · exact ⟨and_left hs, hl.left⟩
    · exact coArm_good rest hm (and_right hs) hl.right

theorem wfRV_ofHV (tbl : Table) (h : ZV.Host.HV) : wfRV tbl (ofHV h) := by
  cases h <;> exact trivial

theorem popArgs_good {tbl : Table} {args : List RV} {rest : RStack} :
    ∀ (n : Nat) (σ : RStack) (acc : List RV),
      wfStack tbl σ → (∀ v ∈ acc, wfRV tbl v) → popArgs n σ acc = some (args, rest) →
      (∀ v ∈ args, wfRV tbl v) ∧ wfStack tbl rest
  | 0, σ, acc, hσ, hacc, h => by
    cases h
    exact ⟨fun v hv => hacc v (List.mem_reverse.1 hv), hσ⟩
  | n + 1, .arg v :: σ, acc, hσ, hacc, h =>
    have hσ := wfStack_cons.1 hσ
    popArgs_good n σ (v :: acc) hσ.2 (List.forall_mem_cons.2 ⟨hσ.1, hacc⟩) h
  | _ + 1, [], _, _, _, h | _ + 1, .tag _ :: _, _, _, _, h | _ + 1, .kont _ :: _, _, _, _, h =>
    nomatch h

def CtrlInv (tbl : Table) : Ctrl → Prop
  | .comp c ρ => CompInv tbl c ρ
  | .enter v => wfRV tbl v
  | .force k => wfRV tbl k

def Inv (tbl : Table) (st : State) : Prop := CtrlInv tbl st.ctrl ∧ wfStack tbl st.stack

def OutcomeGood : Outcome → Prop
  | .stuck s => NotLookup s
  | _ => True

def StepGood (tbl : Table) : StepResult → Prop
  | .next st' => Inv tbl st'
  | .done o _ => OutcomeGood o

theorem step_enter_good (tbl : Table) (hs : ScopeOK tbl) (hcl : Closed tbl) (code : RV) (σ : RStack)
    (host : ZV.Host.Host) (um : Bool) (hc : wfRV tbl code) (hσ : wfStack tbl σ) :
    StepGood tbl (step tbl ⟨.enter code, σ, host, um⟩) := by
  cases code with
  | code l =>
    obtain ⟨b, hg⟩ := Option.isSome_iff_exists.1 (assoc_isSome.2 hc)
    have hm := mem_of_assoc hg
    change tbl.get? l = some b at hg
    simp only [step, hg]
    exact ⟨⟨[l], hs _ hm, EnvOK.nil.bind hc, fun lb' h => List.mem_map_of_mem (hcl _ hm lb' h)⟩, hσ⟩
  | haltCode =>
    dsimp only [step]
    split
    · trivial
    · exact notLookup_of_isLookup rfl
  | foldCode =>
    dsimp only [step]
    split
    · next argv ke ki rest =>
      obtain ⟨⟨hke, hki⟩, hrest⟩ := wfStack_cons.1 hσ
      split
      · exact ⟨hke, hrest⟩
      · exact ⟨hki, wfStack_cons.2 ⟨trivial, wfStack_cons.2 ⟨⟨⟨hke, hki⟩, trivial⟩, hrest⟩⟩⟩
    · exact notLookup_of_isLookup rfl
  | _ => exact notLookup_of_isLookup rfl

theorem step_force_good (tbl : Table) (k : RV) (σ : RStack)
    (host : ZV.Host.Host) (um : Bool) (hc : wfRV tbl k) (hσ : wfStack tbl σ) :
    StepGood tbl (step tbl ⟨.force k, σ, host, um⟩) := by
  cases k with
  | closure e c => exact ⟨hc.2, wfStack_cons.2 ⟨hc.1, hσ⟩⟩
  | _ => exact notLookup_of_isLookup rfl

/-- How `step` ends at `prodMatch`, `letValue`, `letArg`, `openClosure` and `openKont`, in the words
of `step` so that it closes the goal there. -/
theorem matchExpect_step {tbl : Table} {p : Pat} {v : RV} {ρ : Env} {bound : List Nat} {body : Comp}
    {σ : RStack} {host : ZV.Host.Host} {um : Bool} {st : State} (hv : wfRV tbl v)
    (he : EnvOK tbl ρ bound) (hs : scopeC (p.vars ++ bound) body = true)
    (hl : labelsIn tbl (blocksC body)) (hσ : wfStack tbl σ) :
    StepGood tbl (match matchExpect p v ρ with
      | .ok ρ' => .next ⟨.comp body ρ', σ, host, um⟩
      | .error e => .done (.stuck e) st) := by
  match matchExpect p v ρ, matchExpect_good p hv he with
  | .ok _, hm => exact ⟨⟨_, hs, hm, hl⟩, hσ⟩
  | .error _, hm => exact hm

theorem step_comp_good (tbl : Table) (c : Comp) (ρ : Env) (σ : RStack)
    (host : ZV.Host.Host) (um : Bool) (hc : CompInv tbl c ρ) (hσ : wfStack tbl σ) :
    StepGood tbl (step tbl ⟨.comp c ρ, σ, host, um⟩) := by
  obtain ⟨bound, hs, he, hl⟩ := hc
  -- Every case evaluates a value or a stack expression of `c` (`evalVal_good`, `evalStk_good`: the
  -- result is well formed, or the failure is no lookup failure) and goes on with a part of `c`,
  -- whose scope and label facts are the halves of `hs` and `hl`.
  cases c <;> dsimp only [step]
  case hole s => exact notLookup_of_isLookup rfl
  case jump target s =>
    match evalVal ρ target, evalVal_good he target (and_left hs) hl.left,
      evalStk ρ σ s, evalStk_good he hσ s (and_right hs) hl.right with
    | .ok _, hv, .ok _, hk => exact ⟨hv, hk⟩
    | .error _, hv, _, _ => exact hv
    | .ok _, _, .error _, hk => exact hk
  case prodMatch scrut p body =>
    match evalVal ρ scrut, evalVal_good he scrut (and_left hs) hl.left with
    | .ok _, hv => exact matchExpect_step hv he (and_right hs) hl.right hσ
    | .error _, hv => exact hv
  case coprodMatch scrut arms =>
    match evalVal ρ scrut, evalVal_good he scrut (and_left hs) hl.left with
    | .ok v, hv =>
      -- the next discriminant occurs in the goal only once the outer `match` is reduced
      dsimp only
      match findArm v ρ arms, findArm_good hv he arms (and_right hs) hl.right with
      | .ok _, hm => exact ⟨hm, hσ⟩
      | .error _, hm => exact hm
    | .error _, hv => exact hv
  case letValue p bindee body =>
    match evalVal ρ bindee, evalVal_good he bindee (and_left hs) hl.left with
    | .ok _, hv => exact matchExpect_step hv he (and_right hs) hl.right hσ
    | .error _, hv => exact hv
  case letStack bindee body =>
    match evalStk ρ σ bindee, evalStk_good he hσ bindee (and_left hs) hl.left with
    | .ok _, hk => exact ⟨⟨_, and_right hs, he, hl.right⟩, hk⟩
    | .error _, hk => exact hk
  case letArg p bindee body =>
    match evalStk ρ σ bindee, evalStk_good he hσ bindee (and_left hs) hl.left with
    | .ok (.arg _ :: _), hk =>
      have hk := wfStack_cons.1 hk
      exact matchExpect_step hk.1 he (and_right hs) hl.right hk.2
    -- the `.ok _` arm of `step`, shape by shape: on a variable its `match` would not reduce
    | .ok [], _ | .ok (.tag _ :: _), _ | .ok (.kont _ :: _), _ => exact notLookup_of_isLookup rfl
    | .error _, hk => exact hk
  case coCase scrut arms =>
    match evalStk ρ σ scrut, evalStk_good he hσ scrut (and_left hs) hl.left with
    | .ok (.tag _ :: _), hk =>
      dsimp only
      split
      · next h =>
        have ha := coArm_good arms (List.mem_of_find?_eq_some h) (and_right hs) hl.right
        exact ⟨⟨bound, ha.1, he, ha.2⟩, (wfStack_cons.1 hk).2⟩
      · exact notLookup_of_isLookup rfl
    | .ok [], _ | .ok (.arg _ :: _), _ | .ok (.kont _ :: _), _ => exact notLookup_of_isLookup rfl
    | .error _, hk => exact hk
  case openClosure package penv pcode body =>
    match evalVal ρ package, evalVal_good he package (and_left hs) hl.left with
    | .ok v, hv =>
      cases v with
      | closure e c =>
        dsimp only
        match matchExpect penv e ρ, matchExpect_good penv hv.1 he with
        | .ok _, hm => exact matchExpect_step hv.2 hm (and_right hs) hl.right hσ
        | .error _, hm => exact hm
      | _ => exact notLookup_of_isLookup rfl
    | .error _, hv => exact hv
  case openKont package pcode body =>
    match evalStk ρ σ package, evalStk_good he hσ package (and_left hs) hl.left with
    | .ok (.kont _ :: _), hk =>
      have hk := wfStack_cons.1 hk
      exact matchExpect_step hk.1 he (and_right hs) hl.right hk.2
    | .ok [], _ | .ok (.arg _ :: _), _ | .ok (.tag _ :: _), _ => exact notLookup_of_isLookup rfl
    | .error _, hk => exact hk
  case extern role arity s =>
    match evalStk ρ σ s, evalStk_good he hσ s hs hl with
    | .error _, hk => exact hk
    | .ok σ', hk =>
      dsimp only
      split
      · exact notLookup_of_isLookup rfl
      next args rest h =>
      obtain ⟨hargs, hrest⟩ := popArgs_good arity σ' [] hk nofun h
      split
      · exact notLookup_of_isLookup rfl
      next hvs _ =>
      generalize (ZV.Host.hostOp role hvs host).2 = out
      cases out <;> dsimp only
      case ret v =>
        split
        · have hr := wfStack_cons.1 hrest
          exact ⟨hr.1, wfStack_cons.2 ⟨wfRV_ofHV tbl v, hr.2⟩⟩
        · exact notLookup_of_isLookup rfl
      case call i cargs =>
        split
        · next k hk =>
          exact ⟨hargs k (List.mem_of_getElem? hk),
            List.forall_mem_append.2 ⟨List.forall_mem_map.2 fun a _ => wfRV_ofHV tbl a, hrest⟩⟩
        · exact notLookup_of_isLookup rfl
      case fold argv e i =>
        split
        · next ke ki hke hki =>
          exact ⟨trivial, wfStack_cons.2
            ⟨⟨hargs ke (List.mem_of_getElem? hke), hargs ki (List.mem_of_getElem? hki)⟩, hrest⟩⟩
        · exact notLookup_of_isLookup rfl
      case exit | trap | panic => trivial
      case shapeError => exact notLookup_of_isLookup rfl

theorem step_good (tbl : Table) (hs : ScopeOK tbl) (hcl : Closed tbl) (st : State)
    (h : Inv tbl st) : StepGood tbl (step tbl st) := by
  obtain ⟨ctrl, σ, host, um⟩ := st
  obtain ⟨hc, hσ⟩ := h
  cases ctrl with
  | comp c ρ => exact step_comp_good tbl c ρ σ host um hc hσ
  | enter code => exact step_enter_good tbl hs hcl code σ host um hc hσ
  | force k => exact step_force_good tbl k σ host um hc hσ

/-- Unique labels and the join clause of `validate` are not needed: of two blocks with one label
`step` runs the first, which is in the table like the other. -/
theorem runFrom_good (tbl : Table) (hs : ScopeOK tbl) (hcl : Closed tbl) :
    ∀ (n : Nat) (st : State) (k : Nat) (s : Stuck) (st' : State) (k' : Nat),
      Inv tbl st → runFrom tbl n st k = (some (.stuck s), st', k') → NotLookup s
  | 0, _, _, _, _, _, _, h => nomatch h
  | n + 1, st, k, s, st', k', hinv, h => by
    rw [runFrom] at h
    match step tbl st, step_good tbl hs hcl st hinv, h with
    | .next st₁, hg, h => exact runFrom_good tbl hs hcl n st₁ (k + 1) s st' k' hg h
    | .done _ _, hg, h =>
      cases h
      exact hg

theorem inv_init (p : Program) (hroot : scopeC [] p.root = true) (host : ZV.Host.Host) :
    Inv p.blocks (p.init host) :=
  ⟨⟨[], hroot, EnvOK.nil, fun _ h => List.mem_map_of_mem h⟩,
    List.forall_mem_cons.2 ⟨trivial, nofun⟩⟩

end ZV.SpsLow
