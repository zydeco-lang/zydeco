import ZV.Model.Decimal

namespace ZV.Decimal

theorem digitVal?_digitChar {d : Nat} (h : d < 10) : digitVal? (digitChar d) = some d := by
  have : (digitChar d).toNat = 48 + d := by
    unfold digitChar
    have : (48 + d).isValidChar := by
      left; omega
    simp [Char.ofNat, this, Char.ofNatAux, Char.toNat]
    omega
  simp [digitVal?, this]
  omega

theorem valRev_revDigitsFuel (fuel n : Nat) (h : n ≤ fuel ∨ n < 10) :
    valRev (revDigitsFuel fuel n) = some n := by
  induction fuel generalizing n with
  | zero =>
    have : n < 10 := by omega
    simp [revDigitsFuel, valRev, Nat.mod_eq_of_lt this, digitVal?_digitChar this]
  | succ fuel ih =>
    unfold revDigitsFuel
    split
    · next h => simp [valRev, digitVal?_digitChar h]
    · next h' =>
      have h1 : n % 10 < 10 := Nat.mod_lt _ (by decide)
      have h2 : n / 10 ≤ fuel ∨ n / 10 < 10 := by omega
      simp [valRev, digitVal?_digitChar h1, ih _ h2]
      omega

theorem valRev_revDigits (n : Nat) : valRev (revDigits n) = some n :=
  valRev_revDigitsFuel n n (Or.inl (Nat.le_refl _))

theorem revDigits_ne_nil (n : Nat) : revDigits n ≠ [] := by
  unfold revDigits; cases n <;> simp [revDigitsFuel]; split <;> simp

theorem readNat_showNat (n : Nat) : readNat (showNat n) = some n := by
  simp [readNat, showNat, valRev_revDigits, revDigits_ne_nil]

theorem digit_of_valRev : ∀ {cs : List Char} {n : Nat}, valRev cs = some n →
    ∀ c ∈ cs, (digitVal? c).isSome
  | d :: ds, _, h, c, hc => by
    unfold valRev at h
    split at h
    · next hd hr =>
      rcases List.mem_cons.1 hc with rfl | hc
      · simp [hd]
      · exact digit_of_valRev hr c hc
    · cases h

theorem showNat_head_not_sign {n : Nat} {c : Char} {cs : List Char} (h : showNat n = c :: cs) :
    c ≠ '-' ∧ c ≠ '+' := by
  have hm : c ∈ showNat n := h ▸ List.mem_cons_self
  have := digit_of_valRev (valRev_revDigits n) c (List.mem_reverse.1 hm)
  constructor <;> (rintro rfl; simp [digitVal?] at this)

theorem parseBounded_showInt (lo hi z : Int) (h : lo ≤ z ∧ z ≤ hi) :
    parseBounded lo hi (showInt z) = some z := by
  cases z with
  | ofNat n =>
    simp only [showInt]
    have hne : showNat n ≠ [] := by simp [showNat, revDigits_ne_nil]
    match hs : showNat n with
    | [] => exact absurd hs hne
    | c :: cs =>
      have := showNat_head_not_sign hs
      have hr := readNat_showNat n
      rw [hs] at hr
      unfold parseBounded
      split
      · next ds heq => simp at heq; exact absurd heq.1 this.1
      · next ds heq => simp at heq; exact absurd heq.1 this.2
      · simp [hr]; exact h
  | negSucc n =>
    simp only [showInt]
    unfold parseBounded
    simp [readNat_showNat]
    have : -((n : Int) + 1) = Int.negSucc n := by omega
    rw [this]
    simp [h]

theorem parseBounded_range {lo hi : Int} {s : List Char} {z : Int}
    (h : parseBounded lo hi s = some z) : lo ≤ z ∧ z ≤ hi := by
  unfold parseBounded at h
  split at h <;>
  · simp only [Option.bind_eq_some_iff] at h
    obtain ⟨n, _, hn⟩ := h
    split at hn
    · next hr => cases hn; exact hr
    · cases hn

end ZV.Decimal
