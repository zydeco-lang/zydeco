/-
C07, part two: the canonical renaming keeps the form of every term (`Lk.KeepsForm`). Hence the
checker gives literally the same answer on a term and on its canonical form (`Lk.inferC_layer`), and
the reference semantics runs the two in lockstep (`Lk.lockstep`).
-/
import ZV.Proofs.ScopeBasic
import ZV.Proofs.Lockstep

namespace ZV.ZCore.Sc
open ZV.ZCore Lk

/-- Every canonical name in use is below the current depth. -/
def RenBound (n : Nat) (ρ : Ren) : Prop := ∀ x k, ρ.get? x = some k → k < n

theorem RenBound.nil (n : Nat) : RenBound n [] := fun _ _ h => nomatch h

theorem RenBound.cons {n : Nat} {ρ : Ren} (h : RenBound n ρ) (x : Nat) :
    RenBound (n + 1) ((x, n) :: ρ) := by
  intro y k hy
  rw [ren_get_cons] at hy
  split at hy
  · cases hy; exact Nat.lt_succ_self _
  · exact Nat.lt_succ_of_lt (h y k hy)

/-- The two contexts agree through the renaming, on every renamed name. -/
def CtxRel (ρ : Ren) (Γ Γ' : Ctx) : Prop :=
  ∀ x k, ρ.get? x = some k → ∃ a, Γ.get? x = some a ∧ Γ'.get? k = some a

theorem CtxRel.nil : CtxRel [] [] [] := fun _ _ h => nomatch h

/-- The renaming is fresh above `n`, and `N` lets every name stand for its canonical name. -/
structure Fits (n : Nat) (ρ : Ren) (N : NRel) : Prop where
  bound : RenBound n ρ
  sub : ∀ x k, ρ.get? x = some k → N x k

theorem Fits.cons {n : Nat} {ρ : Ren} {N : NRel} (h : Fits n ρ N) (x : Nat) :
    Fits (n + 1) ((x, n) :: ρ) (N.ext x n) where
  bound := h.bound.cons x
  sub := by
    intro y k hy
    rw [ren_get_cons] at hy
    split at hy
    · next hxy => cases hy; exact .inl ⟨hxy.symm, rfl⟩
    -- an older canonical name is below `n`
    · next hxy => exact .inr ⟨Ne.symm hxy, Nat.ne_of_lt (h.bound y k hy), h.sub y k hy⟩

theorem RenBound.fits {n : Nat} {ρ : Ren} (h : RenBound n ρ) :
    Fits n ρ fun x k => ρ.get? x = some k :=
  ⟨h, fun _ _ h => h⟩

/-- Code and its canonical form under a renaming that fits. -/
def CanonK (N : NRel) (m m' : C) : Prop := ∃ n ρ, canonC n ρ m = some m' ∧ Fits n ρ N

theorem Fits.canonK {n : Nat} {ρ : Ren} {N : NRel} (hf : Fits n ρ N) {m m' : C}
    (h : canonC n ρ m = some m') : CanonK N m m' :=
  ⟨n, ρ, h, hf⟩

theorem canonV_corr {n : Nat} {ρ : Ren} {N : NRel} (hf : Fits n ρ N) :
    ∀ (v v' : V), canonV n ρ v = some v' → VCorr CanonK N v v'
  | .var x, v', h => by
    simp only [canonV, Option.map_eq_some_iff] at h
    obtain ⟨k, hk, rfl⟩ := h
    exact .var (hf.sub x k hk)
  | .unit, v', h => by simp only [canonV] at h; cases h; exact .unit
  | .int t x, v', h => by simp only [canonV] at h; cases h; exact .int t x
  | .str s, v', h => by simp only [canonV] at h; cases h; exact .str s
  | .pair p q, v', h => by
    simp only [canonV, obind, Option.some.injEq] at h
    obtain ⟨p', hp, q', hq, rfl⟩ := h
    exact .pair (canonV_corr hf p p' hp) (canonV_corr hf q q' hq)
  | .ctor d k arg, v', h => by
    simp only [canonV, obind, Option.some.injEq] at h
    obtain ⟨p', hp, rfl⟩ := h
    exact .ctor d k (canonV_corr hf arg p' hp)
  | .thunk m b, v', h => by
    simp only [canonV, obind, Option.some.injEq] at h
    obtain ⟨m', hm, rfl⟩ := h
    exact .thunk b (hf.canonK hm)

theorem canonArms_corr {n : Nat} {ρ : Ren} {N : NRel} (hf : Fits n ρ N) :
    ∀ (arms arms' : List (String × Nat × C)), canonArms n ρ arms = some arms' →
      Arms₂ (ArmCorr CanonK N) arms arms'
  | [], arms', h => by simp only [canonArms] at h; cases h; exact .nil
  | (k0, x, m) :: rest, arms', h => by
    simp only [canonArms, obind, Option.some.injEq] at h
    obtain ⟨m', hm, rest', hr, rfl⟩ := h
    exact .cons ((hf.cons x).canonK hm) (canonArms_corr hf rest rest' hr)

theorem canonCoArms_corr {n : Nat} {ρ : Ren} {N : NRel} (hf : Fits n ρ N) :
    ∀ (arms arms' : List (String × C)), canonCoArms n ρ arms = some arms' →
      Arms₂ (CanonK N) arms arms'
  | [], arms', h => by simp only [canonCoArms] at h; cases h; exact .nil
  | (k0, m) :: rest, arms', h => by
    simp only [canonCoArms, obind, Option.some.injEq] at h
    obtain ⟨m', hm, rest', hr, rfl⟩ := h
    exact .cons (hf.canonK hm) (canonCoArms_corr hf rest rest' hr)

theorem canon_layer : KeepsForm CanonK := by
  intro N m c ⟨n, ρ, h, hf⟩
  have h0 := h
  have hv := canonV_corr hf
  cases m <;> simp only [canonC, obind, Option.some.injEq] at h
  case ret v => obtain ⟨v', e, rfl⟩ := h; exact .ret (hv _ _ e)
  case bind x a m k =>
    obtain ⟨m', em, k', ek, rfl⟩ := h
    exact .bind (hf.canonK em) ((hf.cons x).canonK ek)
  case clet x v m =>
    obtain ⟨v', e, m', em, rfl⟩ := h
    exact .clet (hv _ _ e) ((hf.cons x).canonK em)
  case letPair x y v m =>
    obtain ⟨v', e, m', em, rfl⟩ := h
    exact .letPair (hv _ _ e) (((hf.cons x).cons y).canonK em)
  case fn x a m => obtain ⟨m', em, rfl⟩ := h; exact .fn ((hf.cons x).canonK em)
  case app m v => obtain ⟨m', em, v', e, rfl⟩ := h; exact .app (hf.canonK em) (hv _ _ e)
  case force v => obtain ⟨v', e, rfl⟩ := h; exact .force (hv _ _ e)
  case fix f b m => obtain ⟨m', em, rfl⟩ := h; exact .fix (hf.canonK h0) ((hf.cons f).canonK em)
  case case v d arms b =>
    obtain ⟨v', e, arms', ea, rfl⟩ := h
    exact .case (hv _ _ e) (canonArms_corr hf _ _ ea)
  case comatch c0 arms => obtain ⟨arms', ea, rfl⟩ := h; exact .comatch (canonCoArms_corr hf _ _ ea)
  case dtor m k => obtain ⟨m', em, rfl⟩ := h; exact .dtor (hf.canonK em)
  case arith t op p q =>
    obtain ⟨p', ep, q', eq, rfl⟩ := h
    exact .arith t op (hv _ _ ep) (hv _ _ eq)
  case cmp t op p q res yes no =>
    obtain ⟨p', ep, q', eq, y', ey, n', en, rfl⟩ := h
    exact .cmp t op res (hv _ _ ep) (hv _ _ eq) (hf.canonK ey) (hf.canonK en)
  case toStr t p => obtain ⟨p', ep, rfl⟩ := h; exact .toStr t (hv _ _ ep)
  case strAppend p q =>
    obtain ⟨p', ep, q', eq, rfl⟩ := h
    exact .strAppend (hv _ _ ep) (hv _ _ eq)
  case writeLine p k =>
    obtain ⟨p', ep, k', ek, rfl⟩ := h
    exact .writeLine (hv _ _ ep) (hf.canonK ek)
  case exit p => obtain ⟨p', ep, rfl⟩ := h; exact .exit (hv _ _ ep)

-- In the four statements that follow `CtxRel ρ Γ Γ'` is used as `CtxAgree N Γ Γ'` for the `N` of
-- `RenBound.fits`, the graph of `ρ`: the two unfold to the same proposition.

theorem accV (Δ : Sig) : ∀ (v : V) (n : Nat) (ρ : Ren) (Γ Γ' : Ctx) (v' : V),
    canonV n ρ v = some v' → RenBound n ρ → CtxRel ρ Γ Γ' → inferV Δ Γ' v' = inferV Δ Γ v :=
  fun v _ _ _ _ v' h hb hr => inferV_corr canon_layer Δ v (canonV_corr hb.fits v v' h) hr

theorem accC (Δ : Sig) : ∀ (m : C) (n : Nat) (ρ : Ren) (Γ Γ' : Ctx) (m' : C),
    canonC n ρ m = some m' → RenBound n ρ → CtxRel ρ Γ Γ' → inferC Δ Γ' m' = inferC Δ Γ m :=
  fun m _ _ _ _ _ h hb hr => inferC_layer canon_layer Δ m (hb.fits.canonK h) hr

theorem accArms (Δ : Sig) : ∀ (arms : List (String × Nat × C)) (n : Nat) (ρ : Ren) (Γ Γ' : Ctx)
    (arms' : List (String × Nat × C)) (d : Nat) (b : CTy),
    canonArms n ρ arms = some arms' → RenBound n ρ → CtxRel ρ Γ Γ' →
    checkArms Δ Γ' d arms' b = checkArms Δ Γ d arms b :=
  fun arms _ _ _ _ arms' _ _ h hb hr =>
    checkArms_layer canon_layer Δ arms (canonArms_corr hb.fits arms arms' h) hr

theorem accCoArms (Δ : Sig) : ∀ (arms : List (String × C)) (n : Nat) (ρ : Ren) (Γ Γ' : Ctx)
    (arms' : List (String × C)) (c : Nat),
    canonCoArms n ρ arms = some arms' → RenBound n ρ → CtxRel ρ Γ Γ' →
    checkCoArms Δ Γ' c arms' = checkCoArms Δ Γ c arms :=
  fun arms _ _ _ _ arms' _ h hb hr =>
    checkCoArms_layer canon_layer Δ arms (canonCoArms_corr hb.fits arms arms' h) hr

theorem check_canon (Δ : Sig) (m m' : C) (h : canon m = some m') :
    checkProgram Δ m' = checkProgram Δ m := by
  unfold checkProgram
  rw [accC Δ m 0 [] [] [] m' h (RenBound.nil 0) CtxRel.nil]

theorem eval_canon (m m' : C) (fuel : Nat) (h : canon m = some m') :
    Fwd CanonK (evalRC fuel [] m []) (evalRC fuel [] m' []) ∧
    Bwd CanonK (evalRC fuel [] m []) (evalRC fuel [] m' []) :=
  have hk := (RenBound.nil 0).fits.canonK h
  ⟨lockstep goodFwd (Fwd.none_left _) canon_layer fuel hk EnvRel.nil,
   lockstep goodBwd (Bwd.none_right _) canon_layer fuel hk EnvRel.nil⟩

end ZV.ZCore.Sc
