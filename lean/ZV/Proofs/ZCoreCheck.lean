/-
C03: the executable ZCore checker decides exactly the declared typing rules, for any signature.
Soundness by recursion on terms (the checker is one), completeness by induction on derivations.
-/
import ZV.Proofs.ZCoreBasic

namespace ZV.ZCore
open ZV.Numeric

mutual
  theorem VTy.beq_iff : ∀ (a b : VTy), (a == b) = true ↔ a = b
    | .unit, b => by cases b <;> simp [BEq.beq, VTy.beq]
    | .int t, b => by cases b <;> simp [BEq.beq, VTy.beq]
    | .str, b => by cases b <;> simp [BEq.beq, VTy.beq]
    | .prod a1 a2, b => by
      cases b <;> simp [BEq.beq, VTy.beq]
      exact and_congr (VTy.beq_iff a1 _) (VTy.beq_iff a2 _)
    | .data d, b => by cases b <;> simp [BEq.beq, VTy.beq]
    | .thk c, b => by
      cases b <;> simp [BEq.beq, VTy.beq]
      exact CTy.beq_iff c _
  theorem CTy.beq_iff : ∀ (a b : CTy), (a == b) = true ↔ a = b
    | .ret a, b => by
      cases b <;> simp [BEq.beq, CTy.beq]
      exact VTy.beq_iff a _
    | .arr a1 a2, b => by
      cases b <;> simp [BEq.beq, CTy.beq]
      exact and_congr (VTy.beq_iff a1 _) (CTy.beq_iff a2 _)
    | .codata c, b => by cases b <;> simp [BEq.beq, CTy.beq]
    | .os, b => by cases b <;> simp [BEq.beq, CTy.beq]
end

@[simp] theorem VTy.beq_self (a : VTy) : (a == a) = true := (VTy.beq_iff a a).2 rfl
@[simp] theorem CTy.beq_self (a : CTy) : (a == a) = true := (CTy.beq_iff a a).2 rfl

/-- unpacking the checker's monad: a sequence of steps succeeds when each does, a guarded result
when the guard holds (or fails, where the error comes first), and the guards are exact type
equalities -/
macro "zv_unpack" h:ident : tactic => `(tactic|
  simp only [inferV, inferC, checkArms, checkCoArms, bind_eq_ok, ite_eq_ok, ite_error_eq_ok,
    Bool.not_eq_true, Bool.not_eq_false', Bool.and_eq_true, VTy.beq_iff, CTy.beq_iff,
    Except.ok.injEq] at $h:ident)

theorem cover_iff {α β : Type} {ctors : List (String × α)} {arms : List (String × β)} :
    (ctors.all fun (k, _) => (arms.filter (·.1 == k)).length == 1) = true ↔
      ∀ k a, (k, a) ∈ ctors → (arms.filter (·.1 == k)).length = 1 := by
  simp [List.all_eq_true]

mutual
  theorem soundV (Δ : Sig) : ∀ (v : V) (Γ : Ctx) (a : VTy), inferV Δ Γ v = .ok a → HasTyV Δ Γ v a
    | .var x, Γ, a, h => by
      simp only [inferV] at h
      split at h
      · cases h; exact .var ‹_›
      · cases h
    | .unit, Γ, a, h => by cases h; exact .unit
    | .int t x, Γ, a, h => by cases h; exact .int t x
    | .str s, Γ, a, h => by cases h; exact .str s
    | .pair p q, Γ, a, h => by
      zv_unpack h
      obtain ⟨ta, h1, tb, h2, rfl⟩ := h
      exact .pair (soundV Δ p Γ ta h1) (soundV Δ q Γ tb h2)
    | .ctor d k arg, Γ, a, h => by
      simp only [inferV] at h
      split at h
      · cases h
      · next hk =>
        zv_unpack h
        obtain ⟨ta, h1, rfl, rfl⟩ := h
        exact .ctor hk (soundV Δ arg Γ ta h1)
    | .thunk m b, Γ, a, h => by
      zv_unpack h
      obtain ⟨b', h1, rfl, rfl⟩ := h
      exact .thunk (soundC Δ m Γ b' h1)
  theorem soundC (Δ : Sig) : ∀ (m : C) (Γ : Ctx) (b : CTy), inferC Δ Γ m = .ok b → HasTyC Δ Γ m b
    | .ret v, Γ, b, h => by
      zv_unpack h
      obtain ⟨a, h1, rfl⟩ := h
      exact .ret (soundV Δ v Γ a h1)
    | .bind x a m n, Γ, b, h => by
      zv_unpack h
      obtain ⟨tm, h1, rfl, h2⟩ := h
      exact .bind (soundC Δ m Γ _ h1) (soundC Δ n _ b h2)
    | .clet x v m, Γ, b, h => by
      zv_unpack h
      obtain ⟨a, h1, h2⟩ := h
      exact .clet (soundV Δ v Γ a h1) (soundC Δ m _ b h2)
    | .letPair x y v m, Γ, b, h => by
      zv_unpack h
      obtain ⟨a, h1, h2⟩ := h
      split at h2
      · exact .letPair (soundV Δ v Γ _ h1) (soundC Δ m _ b h2)
      · cases h2
    | .fn x a m, Γ, b, h => by
      zv_unpack h
      obtain ⟨b0, h1, rfl⟩ := h
      exact .fn (soundC Δ m _ b0 h1)
    | .app m v, Γ, b, h => by
      zv_unpack h
      obtain ⟨tm, h1, tv, h3, h4⟩ := h
      split at h4
      · zv_unpack h4
        obtain ⟨rfl, rfl⟩ := h4
        exact .app (soundC Δ m Γ _ h1) (soundV Δ v Γ _ h3)
      · cases h4
    | .force v, Γ, b, h => by
      zv_unpack h
      obtain ⟨a, h1, h2⟩ := h
      split at h2
      · cases h2
        exact .force (soundV Δ v Γ _ h1)
      · cases h2
    | .fix f b0 m, Γ, b, h => by
      zv_unpack h
      obtain ⟨tb, h1, rfl, rfl⟩ := h
      exact .fix (soundC Δ m _ _ h1)
    | .case v d arms b0, Γ, b, h => by
      zv_unpack h
      obtain ⟨a, h1, h2⟩ := h
      split at h2
      · next d' =>
        zv_unpack h2
        obtain ⟨hd, h2⟩ := h2
        obtain rfl : d' = d := by simpa using hd
        split at h2
        · cases h2
        · next ctors hc =>
          zv_unpack h2
          obtain ⟨hall, -, u, h3, rfl⟩ := h2
          exact .case (soundV Δ v Γ _ h1) hc (cover_iff.1 hall)
            (soundArms Δ arms Γ d' _ h3)
      · cases h2
    | .comatch c arms, Γ, b, h => by
      simp only [inferC] at h
      split at h
      · cases h
      · next dtors hc =>
        zv_unpack h
        obtain ⟨hall, -, u, h3, rfl⟩ := h
        exact .comatch hc (cover_iff.1 hall) (soundCoArms Δ arms Γ c h3)
    | .dtor m k, Γ, b, h => by
      zv_unpack h
      obtain ⟨tm, h1, h2⟩ := h
      split at h2
      · split at h2
        · next hk => cases h2; exact .dtor (soundC Δ m Γ _ h1) hk
        · cases h2
      · cases h2
    | .arith t op p q, Γ, b, h => by
      zv_unpack h
      obtain ⟨ta, h1, tb, h3, ⟨rfl, rfl⟩, rfl⟩ := h
      exact .arith t op (soundV Δ p Γ _ h1) (soundV Δ q Γ _ h3)
    | .cmp t op p q res yes no, Γ, b, h => by
      zv_unpack h
      obtain ⟨ta, h1, tb, h3, ty, h5, tn, h7, ⟨⟨⟨rfl, rfl⟩, rfl⟩, rfl⟩, rfl⟩ := h
      exact .cmp t op (soundV Δ p Γ _ h1) (soundV Δ q Γ _ h3) (soundC Δ yes Γ _ h5)
        (soundC Δ no Γ _ h7)
    | .toStr t p, Γ, b, h => by
      zv_unpack h
      obtain ⟨ta, h1, rfl, rfl⟩ := h
      exact .toStr t (soundV Δ p Γ _ h1)
    | .strAppend p q, Γ, b, h => by
      zv_unpack h
      obtain ⟨ta, h1, tb, h3, ⟨rfl, rfl⟩, rfl⟩ := h
      exact .strAppend (soundV Δ p Γ _ h1) (soundV Δ q Γ _ h3)
    | .writeLine p k, Γ, b, h => by
      zv_unpack h
      obtain ⟨ta, h1, tk, h3, ⟨rfl, rfl⟩, rfl⟩ := h
      exact .writeLine (soundV Δ p Γ _ h1) (soundC Δ k Γ _ h3)
    | .exit p, Γ, b, h => by
      zv_unpack h
      obtain ⟨ta, h1, rfl, rfl⟩ := h
      exact .exit (soundV Δ p Γ _ h1)
  theorem soundArms (Δ : Sig) : ∀ (arms : List (String × Nat × C)) (Γ : Ctx) (d : Nat) (b : CTy),
      checkArms Δ Γ d arms b = .ok () → ArmsTy Δ Γ d arms b
    | [], Γ, d, b, h => .nil
    | (k, x, m) :: rest, Γ, d, b, h => by
      simp only [checkArms] at h
      split at h
      · cases h
      · next hk =>
        zv_unpack h
        obtain ⟨b', h1, rfl, h2⟩ := h
        exact .cons hk (soundC Δ m _ _ h1) (soundArms Δ rest Γ d b' h2)
  theorem soundCoArms (Δ : Sig) : ∀ (arms : List (String × C)) (Γ : Ctx) (c : Nat),
      checkCoArms Δ Γ c arms = .ok () → CoArmsTy Δ Γ c arms
    | [], Γ, c, h => .nil
    | (k, m) :: rest, Γ, c, h => by
      simp only [checkCoArms] at h
      split at h
      · cases h
      · next hk =>
        zv_unpack h
        obtain ⟨b', h1, rfl, h2⟩ := h
        exact .cons hk (soundC Δ m _ _ h1) (soundCoArms Δ rest Γ c h2)
end

theorem ArmsTy.ctors_declared {Δ : Sig} {ctors : List (String × VTy)} :
    ∀ {arms : List (String × Nat × C)} {Γ : Ctx} {d : Nat} {b : CTy},
      ArmsTy Δ Γ d arms b → Δ.datas[d]? = some ctors →
      (arms.all fun (k, _, _) => ctors.any (·.1 == k)) = true
  | [], _, _, _, _, _ => rfl
  | (k, x, m) :: rest, _, _, _, h, hc => by
    cases h with
    | cons hk _ hr =>
      simp only [List.all_cons, Bool.and_eq_true]
      exact ⟨List.any_eq_true.2 ⟨_, Sig.ctor?_mem hc hk, by simp⟩, ArmsTy.ctors_declared hr hc⟩

theorem CoArmsTy.dtors_declared {Δ : Sig} {dtors : List (String × CTy)} :
    ∀ {arms : List (String × C)} {Γ : Ctx} {c : Nat},
      CoArmsTy Δ Γ c arms → Δ.codatas[c]? = some dtors →
      (arms.all fun (k, _) => dtors.any (·.1 == k)) = true
  | [], _, _, _, _ => rfl
  | (k, m) :: rest, _, _, h, hc => by
    cases h with
    | cons hk _ hr =>
      simp only [List.all_cons, Bool.and_eq_true]
      exact ⟨List.any_eq_true.2 ⟨_, Sig.dtor?_mem hc hk, by simp⟩, CoArmsTy.dtors_declared hr hc⟩

/-- Completeness, by induction on the rules. The judgments are mutual, so the induction is by the
recursor with the statements for values and arms as the other motives (recursion over the four
derivations at once is much dearer to check). -/
theorem completeC (Δ : Sig) {Γ : Ctx} {m : C} {b : CTy} (h : HasTyC Δ Γ m b) : inferC Δ Γ m = .ok b := by
  apply HasTyC.rec (t := h)
    (motive_1 := fun Γ v a _ => inferV Δ Γ v = .ok a)
    (motive_2 := fun Γ m b _ => inferC Δ Γ m = .ok b)
    (motive_3 := fun Γ d arms b _ => checkArms Δ Γ d arms b = .ok ())
    (motive_4 := fun Γ c arms _ => checkCoArms Δ Γ c arms = .ok ()) <;> intros
  case var h => simp [inferV, h]
  case unit => simp [inferV]
  case int => simp [inferV]
  case str => simp [inferV]
  case pair h1 h2 => simp [inferV, h1, h2, bind, Except.bind]
  case ctor hk _ h1 => simp [inferV, hk, h1, bind, Except.bind]
  case thunk h1 => simp [inferV, h1, bind, Except.bind]
  case ret h1 => simp [inferC, h1, bind, Except.bind]
  case bind h1 h2 => simp [inferC, h1, h2, bind, Except.bind]
  case clet h1 h2 => simp [inferC, h1, h2, bind, Except.bind]
  case letPair h1 h2 => simp [inferC, h1, h2, bind, Except.bind]
  case fn h1 => simp [inferC, h1, bind, Except.bind]
  case app h1 h2 => simp [inferC, h1, h2, bind, Except.bind]
  case force h1 => simp [inferC, h1, bind, Except.bind]
  case fix h1 => simp [inferC, h1, bind, Except.bind]
  case case hc hcov harms h1 h2 =>
    simp [inferC, h1, hc, cover_iff.2 hcov, ArmsTy.ctors_declared harms hc, h2, bind, Except.bind]
  case comatch hc hcov harms h1 =>
    simp [inferC, hc, cover_iff.2 hcov, CoArmsTy.dtors_declared harms hc, h1, bind, Except.bind]
  case dtor hk h1 => simp [inferC, h1, hk, bind, Except.bind]
  case arith h1 h2 => simp [inferC, h1, h2, bind, Except.bind]
  case cmp h1 h2 h3 h4 => simp [inferC, h1, h2, h3, h4, bind, Except.bind]
  case toStr h1 => simp [inferC, h1, bind, Except.bind]
  case strAppend h1 h2 => simp [inferC, h1, h2, bind, Except.bind]
  case writeLine h1 h2 => simp [inferC, h1, h2, bind, Except.bind]
  case exit h1 => simp [inferC, h1, bind, Except.bind]
  case nil => simp [checkArms]
  case cons hk _ _ h1 hr => simp [checkArms, hk, h1, hr, bind, Except.bind]
  case nil => simp [checkCoArms]
  case cons hk _ _ h1 hr => simp [checkCoArms, hk, h1, hr, bind, Except.bind]

theorem completeV (Δ : Sig) {Γ : Ctx} {v : V} {a : VTy} (h : HasTyV Δ Γ v a) : inferV Δ Γ v = .ok a := by
  have := completeC Δ (.ret h)
  zv_unpack this
  obtain ⟨_, h1, e⟩ := this
  cases e
  exact h1

theorem completeArms (Δ : Sig) : ∀ {Γ : Ctx} {d : Nat} {arms : List (String × Nat × C)} {b : CTy},
    ArmsTy Δ Γ d arms b → checkArms Δ Γ d arms b = .ok ()
  | _, _, _, _, .nil => by simp [checkArms]
  | _, _, _, _, .cons hk h1 hr => by
    simp [checkArms, hk, completeC Δ h1, completeArms Δ hr, bind, Except.bind]

theorem completeCoArms (Δ : Sig) : ∀ {Γ : Ctx} {c : Nat} {arms : List (String × C)},
    CoArmsTy Δ Γ c arms → checkCoArms Δ Γ c arms = .ok ()
  | _, _, _, .nil => by simp [checkCoArms]
  | _, _, _, .cons hk h1 hr => by
    simp [checkCoArms, hk, completeC Δ h1, completeCoArms Δ hr, bind, Except.bind]

/-- **The checker decides the declared rules**, at every context, for any signature. -/
theorem inferV_iff {Δ : Sig} {Γ : Ctx} {v : V} {a : VTy} : inferV Δ Γ v = .ok a ↔ HasTyV Δ Γ v a :=
  ⟨soundV Δ v Γ a, completeV Δ⟩

theorem inferC_iff {Δ : Sig} {Γ : Ctx} {m : C} {b : CTy} : inferC Δ Γ m = .ok b ↔ HasTyC Δ Γ m b :=
  ⟨soundC Δ m Γ b, completeC Δ⟩

theorem checkProgram_sound {Δ : Sig} {body : C} (h : checkProgram Δ body = .ok ()) :
    HasTyC Δ [] body .os := inferC_iff.1 (checkProgram_ok h)

/-! Soundness once more, with the arguments in the checker's order. -/

theorem inferV_sound (Δ : Sig) : ∀ (Γ : Ctx) (v : V) (a : VTy), inferV Δ Γ v = .ok a → HasTyV Δ Γ v a :=
  fun Γ v a h => soundV Δ v Γ a h

theorem checkArms_sound (Δ : Sig) : ∀ (Γ : Ctx) (d : Nat) (arms : List (String × Nat × C)) (b : CTy),
    checkArms Δ Γ d arms b = .ok () → ArmsTy Δ Γ d arms b :=
  fun Γ d arms b h => soundArms Δ arms Γ d b h

theorem checkCoArms_sound (Δ : Sig) : ∀ (Γ : Ctx) (c : Nat) (arms : List (String × C)),
    checkCoArms Δ Γ c arms = .ok () → CoArmsTy Δ Γ c arms :=
  fun Γ c arms h => soundCoArms Δ arms Γ c h

namespace RM

theorem checkArms_sound (Δ : Sig) : ∀ (Γ : Ctx) (d : Nat) (arms : List (String × Nat × C)) (b : CTy),
    checkArms Δ Γ d arms b = .ok () → ArmsTy Δ Γ d arms b := ZCore.checkArms_sound Δ

theorem checkCoArms_sound (Δ : Sig) : ∀ (Γ : Ctx) (c : Nat) (arms : List (String × C)),
    checkCoArms Δ Γ c arms = .ok () → CoArmsTy Δ Γ c arms := ZCore.checkCoArms_sound Δ

theorem check_sound : ∀ (Δ : Sig) (Γ : Ctx), Δ.Wf →
    (∀ v a, inferV Δ Γ v = .ok a → HasTyV Δ Γ v a) ∧ (∀ m b, inferC Δ Γ m = .ok b → HasTyC Δ Γ m b) :=
  fun Δ Γ _ => ⟨fun v => soundV Δ v Γ, fun m => soundC Δ m Γ⟩

end RM

end ZV.ZCore
