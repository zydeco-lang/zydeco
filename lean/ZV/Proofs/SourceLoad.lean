/-
From a good graph the loader (`loadFile`/`loadImports`) yields a good graph in which every new node
says what its file says; when it fails, in a world whose companions exist and on a file of that
world, it is for a missing import and not for lack of fuel (`load_outcome`; `loadFile_spec` is the
instance at the empty graph).

`FileOutcome`, `ImportsOutcome` and `load_outcome` are to this pair of functions what
`DetectOutcome` and `detect_outcome` are to the detector (`SourceDetect.lean`). There are four invariants, each with a lemma for every graph change
that touches it: `seen` is the numbered list of files (`SInv`), the graph is well-formed
(`Graph.Wf`), a nested load only appends (`Ext`), a node whose load has returned says what its file
says (`Finished`). `Grown` bundles them. Fuel does not run out: a nested `loadFile` spends one unit
and allocates a node, and the nodes' files are duplicate-free and in the world.
-/
import ZV.Proofs.SourceBasics

namespace ZV.SourceGraph

theorem getElem?_of_prefix {α : Type} {l₁ l₂ : List α} (h : l₁ <+: l₂) {i : Nat} (hi : i < l₁.length) :
    l₂[i]? = l₁[i]? := by
  obtain ⟨t, rfl⟩ := h
  exact List.getElem?_append_left hi

/- `loadFile` and `loadImports` change the graph in three ways, named below and spelt as in the
model, so that the model's terms are these by `rfl`: a new, still unfinished node with its `seen`
entry (`alloc`); a new import edge (`addImport`); the final write of a node's import ids and
signature (`finish`). -/

def Graph.files (g : Graph) : List Nat := g.sources.map (·.file)

def Graph.alloc (g : Graph) (file : Nat) : Graph :=
  { g with sources := g.sources ++ [{ file }], seen := g.seen ++ [(file, g.sources.length)] }

def Graph.addImport (g : Graph) (sid imported : Nat) : Graph :=
  { g with imports := g.imports ++ [(sid, imported)] }

def Graph.finish (g : Graph) (sid : Nat) (ids : List Nat) (sig : Option Nat) : Graph :=
  g.setNode sid fun n => { n with imports := ids, signature := sig }

theorem files_getElem? (g : Graph) (i : Nat) : g.files[i]? = g.sources[i]?.map (·.file) :=
  List.getElem?_map

theorem files_length (g : Graph) : g.files.length = g.sources.length := List.length_map _

@[simp] theorem alloc_sources (g : Graph) (file : Nat) :
    (g.alloc file).sources = g.sources ++ [{ file }] := rfl
@[simp] theorem alloc_imports (g : Graph) (file : Nat) : (g.alloc file).imports = g.imports := rfl
@[simp] theorem alloc_files (g : Graph) (file : Nat) : (g.alloc file).files = g.files ++ [file] := by
  simp [Graph.files]

@[simp] theorem addImport_sources (g : Graph) (a b : Nat) : (g.addImport a b).sources = g.sources := rfl
@[simp] theorem addImport_imports (g : Graph) (a b : Nat) :
    (g.addImport a b).imports = g.imports ++ [(a, b)] := rfl
@[simp] theorem addImport_files (g : Graph) (a b : Nat) : (g.addImport a b).files = g.files := rfl
@[simp] theorem lookupSeen_addImport (g : Graph) (a b f : Nat) :
    (g.addImport a b).lookupSeen f = g.lookupSeen f := rfl

@[simp] theorem finish_imports (g : Graph) (sid : Nat) (ids : List Nat) (sig : Option Nat) :
    (g.finish sid ids sig).imports = g.imports := rfl
@[simp] theorem lookupSeen_finish (g : Graph) (sid : Nat) (ids : List Nat) (sig : Option Nat) (f : Nat) :
    (g.finish sid ids sig).lookupSeen f = g.lookupSeen f := rfl
@[simp] theorem finish_length (g : Graph) (sid : Nat) (ids : List Nat) (sig : Option Nat) :
    (g.finish sid ids sig).sources.length = g.sources.length := by
  simp [Graph.finish, Graph.setNode]

theorem finish_getElem? (g : Graph) (sid : Nat) (ids : List Nat) (sig : Option Nat) (i : Nat) :
    (g.finish sid ids sig).sources[i]? =
      if i = sid then g.sources[i]?.map (fun n => { n with imports := ids, signature := sig })
      else g.sources[i]? := by
  unfold Graph.finish Graph.setNode
  by_cases h : i = sid <;> simp [List.getElem?_mapIdx, h]

theorem finish_getElem?_file (g : Graph) (sid : Nat) (ids : List Nat) (sig : Option Nat) (i : Nat) :
    (g.finish sid ids sig).sources[i]?.map (·.file) = g.sources[i]?.map (·.file) := by
  rw [finish_getElem?]
  split
  · cases g.sources[i]? <;> rfl
  · rfl

@[simp] theorem finish_files (g : Graph) (sid : Nat) (ids : List Nat) (sig : Option Nat) :
    (g.finish sid ids sig).files = g.files :=
  List.ext_getElem? fun i => by rw [files_getElem?, files_getElem?, finish_getElem?_file]

/-- the canonical identity an import id leads to -/
def Graph.impFile (g : Graph) (i : Nat) : Option Nat :=
  g.imports[i]?.bind fun e => g.sources[e.2]?.map (·.file)

theorem impFile_of_edge {g : Graph} {i a b : Nat} (h : g.imports[i]? = some (a, b)) :
    g.impFile i = g.sources[b]?.map (·.file) := by
  rw [Graph.impFile, h, Option.bind_some]

theorem impFile_finish (g : Graph) (sid : Nat) (ids : List Nat) (sig : Option Nat) :
    (g.finish sid ids sig).impFile = g.impFile := by
  funext i
  simp only [Graph.impFile, finish_imports, finish_getElem?_file]

theorem lt_of_file_at {g : Graph} {s f : Nat} (h : g.sources[s]?.map (·.file) = some f) :
    s < g.sources.length := by
  obtain ⟨n, hn, -⟩ := Option.map_eq_some_iff.1 h
  exact (List.getElem?_eq_some_iff.1 hn).1

/-- `seen` is the list of files, numbered: it is keyed by canonical identity and filled at
allocation. -/
structure SInv (w : World) (g : Graph) : Prop where
  seen_eq : g.seen = g.files.zipIdx
  files_nodup : g.files.Nodup
  files_range : ∀ f ∈ g.files, f < w.length

theorem SInv.seen_some {w : World} {g : Graph} (h : SInv w g) {f s : Nat} (hl : g.lookupSeen f = some s) :
    g.sources[s]?.map (·.file) = some f := by
  have hm := mem_of_assoc (l := g.seen) hl
  rw [h.seen_eq] at hm
  rw [← files_getElem?]
  exact List.mem_zipIdx_iff_getElem?.1 hm

theorem SInv.seen_none {w : World} {g : Graph} (h : SInv w g) {f : Nat} (hl : g.lookupSeen f = none) :
    f ∉ g.files := by
  have := assoc_eq_none.1 hl
  rwa [h.seen_eq, List.zipIdx_map_fst] at this

theorem SInv.congr {w : World} {g g' : Graph} (h : SInv w g) (hf : g'.files = g.files)
    (hs : g'.seen = g.seen) : SInv w g' :=
  ⟨by rw [hs, hf]; exact h.seen_eq, hf ▸ h.files_nodup, hf ▸ h.files_range⟩

theorem SInv.length_le {w : World} {g : Graph} (h : SInv w g) : g.sources.length ≤ w.length :=
  files_length g ▸ length_le_of_nodup_lt h.files_nodup h.files_range

theorem SInv.alloc {w : World} {g : Graph} (h : SInv w g) {file : Nat}
    (hs : g.lookupSeen file = none) (hlt : file < w.length) : SInv w (g.alloc file) where
  seen_eq := by
    rw [alloc_files, List.zipIdx_append, ← h.seen_eq, List.zipIdx_singleton, Nat.zero_add, files_length]
    rfl
  files_nodup := alloc_files g file ▸ nodup_append_singleton.2 ⟨h.seen_none hs, h.files_nodup⟩
  files_range := alloc_files g file ▸ List.forall_mem_append.2 ⟨h.files_range, List.forall_mem_singleton.2 hlt⟩

structure Ext (g g' : Graph) : Prop where
  src : g.sources <+: g'.sources
  imp : g.imports <+: g'.imports

theorem Ext.refl (g : Graph) : Ext g g := ⟨List.prefix_rfl, List.prefix_rfl⟩

theorem Ext.trans {a b c : Graph} (h₁ : Ext a b) (h₂ : Ext b c) : Ext a c :=
  ⟨h₁.src.trans h₂.src, h₁.imp.trans h₂.imp⟩

theorem Ext.alloc (g : Graph) (file : Nat) : Ext g (g.alloc file) :=
  ⟨List.prefix_append _ _, List.prefix_rfl⟩

theorem Ext.addImport (g : Graph) (a b : Nat) : Ext g (g.addImport a b) :=
  ⟨List.prefix_rfl, List.prefix_append _ _⟩

theorem Ext.finish {g g' : Graph} (h : Ext g g') {sid : Nat} (hsid : g.sources.length ≤ sid)
    (ids : List Nat) (sig : Option Nat) : Ext g (g'.finish sid ids sig) :=
  ⟨List.prefix_iff_getElem?.2 fun i hi => by
    rw [finish_getElem?, if_neg (by omega), getElem?_of_prefix h.src hi, List.getElem?_eq_getElem hi], h.imp⟩

theorem Ext.imp_some {g g' : Graph} (h : Ext g g') {i : Nat} {e : Nat × Nat}
    (he : g.imports[i]? = some e) : g'.imports[i]? = some e :=
  (getElem?_of_prefix h.imp (List.getElem?_eq_some_iff.1 he).1).trans he

theorem Ext.src_some {g g' : Graph} (h : Ext g g') {i : Nat} {n : Node}
    (he : g.sources[i]? = some n) : g'.sources[i]? = some n :=
  (getElem?_of_prefix h.src (List.getElem?_eq_some_iff.1 he).1).trans he

theorem Ext.impFile {g g' : Graph} (h : Ext g g') (hw : g.Wf) {i a b : Nat}
    (he : g.imports[i]? = some (a, b)) : g'.impFile i = g.impFile i := by
  rw [impFile_of_edge (h.imp_some he), impFile_of_edge he, getElem?_of_prefix h.src (hw.import_range i a b he).2]

theorem Graph.Wf.empty : ({} : Graph).Wf := ⟨by simp, by simp, by simp⟩

theorem Graph.Wf.alloc {g : Graph} (h : g.Wf) (file : Nat) : (g.alloc file).Wf where
  import_range i a b he := by
    have := h.import_range i a b he
    simp only [alloc_sources, List.length_append, List.length_singleton]
    omega
  listed_range s n hs := by
    rcases getElem?_concat_eq_some.1 hs with hs | ⟨-, rfl⟩
    · exact h.listed_range s n hs
    · nofun
  sig_range s n t hs ht := by
    rcases getElem?_concat_eq_some.1 hs with hs | ⟨-, rfl⟩
    · exact Nat.lt_of_lt_of_le (h.sig_range s n t hs ht) (Ext.alloc g file).src.length_le
    · cases ht

theorem Graph.Wf.addImport {g : Graph} (h : g.Wf) {a b : Nat} (ha : a < g.sources.length)
    (hb : b < g.sources.length) : (g.addImport a b).Wf where
  import_range i x y he := by
    rcases getElem?_concat_eq_some.1 he with he | ⟨-, he⟩
    · exact h.import_range i x y he
    · cases he
      exact ⟨ha, hb⟩
  listed_range s n hs i hi := (h.listed_range s n hs i hi).imp fun _ hy => (Ext.addImport g a b).imp_some hy
  sig_range := h.sig_range

theorem Graph.Wf.finish {g : Graph} (h : g.Wf) {sid : Nat} {ids : List Nat} {sig : Option Nat}
    (hids : ∀ i ∈ ids, ∃ b, g.imports[i]? = some (sid, b)) (hsig : ∀ t, sig = some t → t < g.sources.length) :
    (g.finish sid ids sig).Wf where
  import_range i a b he := by rw [finish_length]; exact h.import_range i a b he
  listed_range s nd hnd i hi := by
    rw [finish_getElem?] at hnd
    split at hnd
    · next e =>
      obtain ⟨n, -, rfl⟩ := Option.map_eq_some_iff.1 hnd
      exact e ▸ hids i hi
    · exact h.listed_range s nd hnd i hi
  sig_range s nd t hnd ht := by
    rw [finish_length]
    rw [finish_getElem?] at hnd
    split at hnd
    · obtain ⟨n, -, rfl⟩ := Option.map_eq_some_iff.1 hnd
      exact hsig t ht
    · exact h.sig_range s nd t hnd ht

/-- node `s` says what its file says -/
def Finished (w : World) (g : Graph) (s : Nat) : Prop :=
  ∃ n spec, g.sources[s]? = some n ∧ w[n.file]? = some spec ∧ n.imports.map g.impFile = spec.imports ∧
    (n.signature.bind fun t => g.sources[t]?.map (·.file)) = spec.companion

theorem Finished.ext {w : World} {g g' : Graph} {s : Nat} (h : Finished w g s) (hw : g.Wf)
    (he : Ext g g') : Finished w g' s := by
  obtain ⟨n, spec, hn, hspec, himp, hsig⟩ := h
  refine ⟨n, spec, he.src_some hn, hspec, ?_, ?_⟩
  · rw [← himp]
    exact List.map_congr_left fun i hi => let ⟨_, hb⟩ := hw.listed_range s n hn i hi; he.impFile hw hb
  · rw [← hsig]
    cases ht : n.signature with
    | none => rfl
    | some t => rw [Option.bind_some, Option.bind_some, getElem?_of_prefix he.src (hw.sig_range s n t hn ht)]

theorem Finished.finish {w : World} {g : Graph} {s : Nat} (h : Finished w g s) {sid : Nat}
    (hne : s ≠ sid) (ids : List Nat) (sig : Option Nat) : Finished w (g.finish sid ids sig) s := by
  obtain ⟨n, spec, hn, hspec, himp, hsig⟩ := h
  refine ⟨n, spec, ?_, hspec, ?_, ?_⟩
  · rw [finish_getElem?, if_neg hne, hn]
  · rw [impFile_finish]; exact himp
  · simp only [finish_getElem?_file]; exact hsig

/-- `g'` is a good graph that extends `g`, and the nodes it adds are finished. -/
structure Grown (w : World) (g g' : Graph) : Prop where
  sinv : SInv w g'
  wf : g'.Wf
  ext : Ext g g'
  fin : ∀ s, g.sources.length ≤ s → s < g'.sources.length → Finished w g' s

theorem Grown.refl {w : World} {g : Graph} (hs : SInv w g) (hw : g.Wf) : Grown w g g :=
  ⟨hs, hw, Ext.refl g, fun _ h1 h2 => absurd h2 (Nat.not_lt.2 h1)⟩

theorem Grown.trans {w : World} {a b c : Graph} (h₁ : Grown w a b) (h₂ : Grown w b c) : Grown w a c :=
  ⟨h₂.sinv, h₂.wf, h₁.ext.trans h₂.ext, fun s h1 h2 =>
    if hlt : s < b.sources.length then (h₁.fin s h1 hlt).ext h₁.wf h₂.ext
    else h₂.fin s (Nat.not_lt.1 hlt) h2⟩

theorem Grown.addImport {w : World} {g : Graph} (hs : SInv w g) (hw : g.Wf) {a b : Nat}
    (ha : a < g.sources.length) (hb : b < g.sources.length) : Grown w g (g.addImport a b) :=
  ⟨hs.congr rfl rfl, hw.addImport ha hb, Ext.addImport g a b, fun _ h1 h2 => absurd h2 (Nat.not_lt.2 h1)⟩

def IsMissing (e : LoadError) : Prop := ∃ f p, e = .missingImport f p

def CompanionsExist (w : World) : Prop :=
  ∀ (f : Nat) (spec : FileSpec), w[f]? = some spec → ∀ c, spec.companion = some c → c < w.length

def FileOutcome (w : World) (g : Graph) (file : Nat) : Except LoadError (Graph × Nat) → Prop
  | .ok (g', sid') => Grown w g g' ∧ g'.sources[sid']?.map (·.file) = some file
  | .error e => CompanionsExist w → file < w.length → IsMissing e

def ImportsOutcome (w : World) (g : Graph) (sid : Nat) (l : List (Option Nat)) (acc : List Nat) :
    Except LoadError (Graph × List Nat) → Prop
  | .ok (g', ids) => Grown w g g' ∧ ∃ newids, ids = acc ++ newids ∧
      (∀ i ∈ newids, ∃ b, g'.imports[i]? = some (sid, b)) ∧ newids.map g'.impFile = l
  | .error e => CompanionsExist w → IsMissing e

def FileOk (w : World) (n : Nat) (g : Graph) (file : Nat) (r : Except LoadError (Graph × Nat)) : Prop :=
  SInv w g → g.Wf → w.length + 1 ≤ n + g.sources.length → FileOutcome w g file r

def ImportsOk (w : World) (n : Nat) (g : Graph) (sid : Nat) (l : List (Option Nat)) (_pos : Nat)
    (acc : List Nat) (r : Except LoadError (Graph × List Nat)) : Prop :=
  SInv w g → g.Wf → w.length + 1 ≤ n + g.sources.length → sid < g.sources.length →
    ImportsOutcome w g sid l acc r

/-- The call of `loadImports` on the freshly allocated node, shared by the five branches of
`loadFile` that get that far. -/
theorem ImportsOk.alloc {w : World} {n : Nat} {g : Graph} {file : Nat} {spec : FileSpec}
    {r : Except LoadError (Graph × List Nat)}
    (ih : ImportsOk w n (g.alloc file) g.sources.length spec.imports 0 [] r) (hs : SInv w g) (hw : g.Wf)
    (hfuel : w.length + 1 ≤ n + 1 + g.sources.length) (hl : g.lookupSeen file = none)
    (hspec : w[file]? = some spec) : ImportsOutcome w (g.alloc file) g.sources.length spec.imports [] r :=
  ih (hs.alloc hl (List.getElem?_eq_some_iff.1 hspec).1) (hw.alloc file) (by simp; omega) (by simp)

/-- The final write, shared by the three branches of `loadFile` that succeed: `g2` is the graph after
the imports, `g3` after the companion (`g2` itself if there is none or it was seen already). -/
theorem FileOutcome.finish {w : World} {g g2 g3 : Graph} {file : Nat} {spec : FileSpec} {ids : List Nat}
    {sig : Option Nat} (hspec : w[file]? = some spec)
    (IP : ImportsOutcome w (g.alloc file) g.sources.length spec.imports [] (.ok (g2, ids)))
    (G23 : Grown w g2 g3) (hsig : (sig.bind fun t => g3.sources[t]?.map (·.file)) = spec.companion)
    (hlt : ∀ t, sig = some t → t < g3.sources.length) :
    FileOutcome w g file (.ok (g3.finish g.sources.length ids sig, g.sources.length)) := by
  obtain ⟨G12, _, rfl, hedge, hmap⟩ := IP
  have G := G12.trans G23
  have hedge3 : ∀ i ∈ ids, ∃ b, g3.imports[i]? = some (g.sources.length, b) :=
    fun i hi => (hedge i hi).imp fun _ hb => G23.ext.imp_some hb
  have hnode : (g3.finish g.sources.length ids sig).sources[g.sources.length]? =
      some { file := file, imports := ids, signature := sig } := by
    rw [finish_getElem?, if_pos rfl, G.ext.src_some (i := g.sources.length) (n := { file }) (by simp)]
    rfl
  refine ⟨⟨G.sinv.congr (by simp) rfl, G.wf.finish hedge3 hlt,
    ((Ext.alloc g file).trans G.ext).finish (Nat.le_refl _) ids sig, fun s h1 h2 => ?_⟩, by rw [hnode]; rfl⟩
  rw [finish_length] at h2
  by_cases hsid : s = g.sources.length
  · subst hsid
    refine ⟨_, spec, hnode, hspec, ?_, by simp only [finish_getElem?_file]; exact hsig⟩
    rw [impFile_finish, ← hmap]
    exact List.map_congr_left fun i hi => let ⟨_, hb⟩ := hedge i hi; G23.ext.impFile G12.wf hb
  · exact (G.fin s (by simp; omega) h2).finish hsid ids sig

theorem ImportsOutcome.cons {w : World} {g g2 : Graph} {sid iid imported t : Nat} {rest : List (Option Nat)}
    {acc : List Nat} {r : Except LoadError (Graph × List Nat)} (G : Grown w g g2)
    (hiid : g2.imports[iid]? = some (sid, imported)) (hat : g2.sources[imported]?.map (·.file) = some t)
    (h : ImportsOutcome w g2 sid rest (acc ++ [iid]) r) : ImportsOutcome w g sid (some t :: rest) acc r := by
  match r, h with
  | .error e, h => exact h
  | .ok (g', ids), ⟨G3, newids, hids, hedge, hmap⟩ =>
    refine ⟨G.trans G3, iid :: newids, by rw [hids, List.append_assoc]; rfl,
      List.forall_mem_cons.2 ⟨⟨imported, G3.ext.imp_some hiid⟩, hedge⟩, ?_⟩
    rw [List.map_cons, hmap, G3.ext.impFile G.wf hiid, impFile_of_edge hiid, hat]

theorem load_outcome (w : World) :
    (∀ n g file, FileOk w n g file (loadFile w n g file)) ∧
    ∀ n g sid l pos acc, ImportsOk w n g sid l pos acc (loadImports w n g sid l pos acc) := by
  -- one case for each branch of `loadFile` (8), then of `loadImports` (5), in the order of the text
  refine loadFile.mutual_induct_unfolding w (FileOk w) (ImportsOk w) ?_ ?_ ?_ ?_ ?_ ?_ ?_ ?_ ?_ ?_ ?_ ?_ ?_
  · intro g file hs _ hfuel
    have := hs.length_le
    omega
  · exact fun n g file s hl hs hw _ => ⟨Grown.refl hs hw, hs.seen_some hl⟩
  · -- `provider.load` fails: not for a file of the world
    intro n g file _ hnone _ _ _ _ hlt
    rw [List.getElem?_eq_none_iff] at hnone
    omega
  · intro n g file hl spec hspec sid g1 e heq ih hs hw hfuel
    have IP := (heq ▸ ih).alloc hs hw hfuel hl hspec
    exact fun hc _ => IP hc
  · intro n g file hl spec hspec sid g1 g2 ids heq hc ih hs hw hfuel
    have IP := (heq ▸ ih).alloc hs hw hfuel hl hspec
    exact FileOutcome.finish hspec IP (Grown.refl IP.1.sinv IP.1.wf) hc.symm nofun
  · intro n g file hl spec hspec sid g1 g2 ids heq c hc s hl2 ih hs hw hfuel
    have IP := (heq ▸ ih).alloc hs hw hfuel hl hspec
    have := IP.1.sinv.seen_some hl2
    exact FileOutcome.finish hspec IP (Grown.refl IP.1.sinv IP.1.wf) (hc ▸ this)
      fun t ht => Option.some.inj ht ▸ lt_of_file_at this
  · -- the companion fails to load: it is a file of the world, so what is missing is an import below it
    intro n g file hl spec hspec sid g1 g2 ids heq c hc hl2 e heq2 ih ih2 hs hw hfuel
    have IP := (heq ▸ ih).alloc hs hw hfuel hl hspec
    have := (heq2 ▸ ih2) IP.1.sinv IP.1.wf (by have := IP.1.ext.src.length_le; simp at this; omega)
    exact fun hcs _ => this hcs (hcs file spec hspec c hc)
  · intro n g file hl spec hspec sid g1 g2 ids heq c hc hl2 g3 s heq2 ih ih2 hs hw hfuel
    have IP := (heq ▸ ih).alloc hs hw hfuel hl hspec
    have := (heq2 ▸ ih2) IP.1.sinv IP.1.wf (by have := IP.1.ext.src.length_le; simp at this; omega)
    exact FileOutcome.finish hspec IP this.1 (hc ▸ this.2) fun t ht => Option.some.inj ht ▸ lt_of_file_at this.2
  · exact fun n g sid pos acc hs hw _ _ => ⟨Grown.refl hs hw, [], by simp, nofun, rfl⟩
  · exact fun n g sid rest pos acc _ _ _ _ _ => ⟨_, _, rfl⟩
  · intro n g sid t rest pos acc importer _ _ _ _ _ _ _
    exact ⟨_, _, rfl⟩
  · -- any other failure of the imported file is passed on: its target is a file of the world
    intro n g sid t rest pos acc importer e hne heq ih hs hw hfuel _ hc
    split at heq
    · next hsome =>
      exact (heq ▸ ih) hs hw hfuel hc (by simpa using hsome)
    · cases heq
      exact ⟨_, _, rfl⟩
  · intro n g sid t rest pos acc importer g1 imported heq iid g2 ih ih2 hs hw hfuel hsid
    split at heq
    · obtain ⟨G1, hat⟩ := (heq ▸ ih) hs hw hfuel
      have hsid1 : sid < g1.sources.length := Nat.lt_of_lt_of_le hsid G1.ext.src.length_le
      have G2 := Grown.addImport G1.sinv G1.wf hsid1 (lt_of_file_at hat)
      exact (ih2 G2.sinv G2.wf (Nat.le_trans hfuel (Nat.add_le_add_left G1.ext.src.length_le n)) hsid1).cons
        (G1.trans G2) List.getElem?_concat_length hat
    · cases heq

/-- `load_spec` and `load_total` in one statement. -/
theorem loadFile_spec (w : World) (root : Nat) : FileOutcome w {} root (loadFile w (w.length + 1) {} root) :=
  (load_outcome w).1 (w.length + 1) {} root ⟨rfl, List.nodup_nil, nofun⟩ Graph.Wf.empty (by simp)

end ZV.SourceGraph
