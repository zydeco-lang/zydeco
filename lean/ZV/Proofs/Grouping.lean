/-
Grouping elision (`ZV/Model/Grouping.lean`). Requirements and classes both stand for grammar levels
(`Req.level`, `Class.level`), and the formatter's acceptance test is the comparison of the two
(`accepts_eq`); its table asks at every child position for exactly the level the grammar has there
(`level_reqOf`). So whatever `close` leaves bare fits the level of its place, the rest is put in
parentheses (`close_cases`), and the output is a derivation under any table that asks for no more
than the grammar accepts (`elideAt_derives`).
-/
import ZV.Props.C12GroupingStatements

namespace ZV.Grouping
open ZV.Props.C12.Grouping

theorem Derives.mono {m t} (h : Derives m t) : ∀ {n}, m ≤ n → Derives n t := by
  intro n hmn
  induction hmn with
  | refl => exact h
  | step _ ih => exact .up ih

theorem derivesB_iff (n : Nat) (t : T) : derivesB n t = true ↔ own t ≤ n ∧ wf t = true := by
  simp [derivesB]

theorem derivesB_of_derives {n t} (h : Derives n t) : derivesB n t = true := by
  rw [derivesB_iff]
  induction h with
  | up _ ih => exact ⟨Nat.le_succ_of_le ih.1, ih.2⟩
  | leaf => exact ⟨Nat.le_refl _, rfl⟩
  | _ =>
    -- rewriting the goal alone, with the induction hypotheses as rules; `simp_all` is ten times dearer
    refine ⟨Nat.le_refl _, ?_⟩
    simp only [wf, gram, Bool.and_eq_true, Nat.ble_eq, *, and_self]

theorem derives_of_wf : ∀ (t : T), wf t = true → Derives (own t) t := by
  intro t
  induction t with
  | leaf k => intro _; exact .leaf k
  | box k t ih | block t ih | paren t ih | pre k t ih | ctor t ih | proj t ih | dtor t ih
  | quant k t ih | ex t ih | tail k t ih | named k t ih =>
    intro h; simp only [wf, gram, Bool.and_eq_true, Nat.ble_eq] at h
    constructor
    exact (ih h.2).mono h.1
  | pair a b iha ihb | mtch a b iha ihb | app a b iha ihb | prod a b iha ihb | arrow a b iha ihb
  | doB a b iha ihb | letB k a b iha ihb | ann a b iha ihb =>
    intro h; simp only [wf, gram, Bool.and_eq_true, Nat.ble_eq] at h
    constructor
    · exact (iha h.1.2).mono h.1.1
    · exact (ihb h.2.2).mono h.2.1
  | letT a b d iha ihb ihd =>
    intro h; simp only [wf, gram, Bool.and_eq_true, Nat.ble_eq] at h
    exact .letT ((iha h.1.1.2).mono h.1.1.1) ((ihb h.1.2.2).mono h.1.2.1) ((ihd h.2.2).mono h.2.1)

theorem derives_of_derivesB {n t} (h : derivesB n t = true) : Derives n t := by
  rw [derivesB_iff] at h
  exact (derives_of_wf t h.2).mono h.1

theorem derives_iff_derivesB (n : Nat) (t : T) : Derives n t ↔ derivesB n t = true :=
  ⟨derivesB_of_derives, derives_of_derivesB⟩

instance (n : Nat) (t : T) : Decidable (Derives n t) :=
  decidable_of_iff _ (derives_iff_derivesB n t).symm

theorem level_reqOf (p : Pos) : (reqOf p).level = gram p := by cases p <;> rfl

theorem tableOK_reqOf : Statement.TableOK reqOf := fun p => Nat.le_of_eq (level_reqOf p)

theorem own_le_seven (t : T) : own t ≤ 7 := by cases t <;> simp [own]

/-- The grammar level of a class, as `Req.level` is that of a requirement. -/
def Class.level : Class → Nat
  | .term p => p.toNat
  | .annotatedOnly => 7

theorem accepts_eq (r : Req) (k : Class) : accepts r k = Nat.ble k.level r.level := by
  cases r with
  | through m => cases k with
    | term p => rfl
    | annotatedOnly => cases m <;> rfl
  | _ => cases k with
    | term p => cases p <;> rfl
    | annotatedOnly => rfl

/-- The class of a tree is the level of its root production, except that an annotation counts
as an atom. -/
theorem level_cls {u : T} (hu : ∀ a b, u ≠ .ann a b) : (cls u).level = own u := by
  cases u <;> first | rfl | exact absurd rfl (hu _ _)

theorem accepts_level {c : Ctx} {u : T} (hu : ∀ a b, u ≠ .ann a b) (h : c.accepts (cls u) = true) :
    own u ≤ c.level := by
  cases c with
  | group => cases h
  | req r => rwa [Ctx.accepts, accepts_eq, level_cls hu, Nat.ble_eq] at h

theorem derivesB_paren (n : Nat) (u : T) (h : wf u = true) : derivesB n (.paren u) = true := by
  rw [derivesB_iff]
  refine ⟨Nat.zero_le _, ?_⟩
  show (Nat.ble (own u) 7 && wf u) = true
  simp only [Bool.and_eq_true, Nat.ble_eq]
  exact ⟨own_le_seven u, h⟩

theorem close_cases (c : Ctx) (u : T) : close c u = u ∧ own u ≤ c.level ∨ close c u = .paren u := by
  unfold close
  split
  · exact .inl ⟨rfl, Nat.le_refl _⟩
  · exact .inl ⟨rfl, Nat.le_refl _⟩
  · split
    · next h => subst h; exact .inl ⟨rfl, Nat.le_refl _⟩
    · exact .inr rfl
  · split
    · next hu _ _ h => exact .inl ⟨rfl, accepts_level (fun a b e => hu a b e) h⟩
    · exact .inr rfl

theorem close_derivesB (c : Ctx) (u : T) (h : wf u = true) : derivesB c.level (close c u) = true := by
  rcases close_cases c u with ⟨h1, h2⟩ | h1 <;> rw [h1]
  · exact (derivesB_iff ..).2 ⟨h2, h⟩
  · exact derivesB_paren _ _ h

theorem elideAt_derivesB (tbl : Pos → Req) (htbl : Statement.TableOK tbl) :
    ∀ (t : T) (ch : Choice) (c : Ctx), derivesB c.level (elideAt tbl ch c t) = true := by
  -- what `wf` asks of a child at position `p`, from what the induction hypothesis gives there
  have key : ∀ (p : Pos) (u : T), derivesB (Ctx.req (tbl p)).level u = true →
      (Nat.ble (own u) (gram p) && wf u) = true := by
    intro p u h
    rw [derivesB_iff] at h
    rw [Bool.and_eq_true, Nat.ble_eq]
    exact ⟨Nat.le_trans h.1 (htbl p), h.2⟩
  intro t
  induction t with
  | paren t ih =>
    intro ch c
    simp only [elideAt]
    split
    · exact ih _ _
    · exact derivesB_paren _ _ ((derivesB_iff ..).1 (ih _ (.req .annotated))).2
  | leaf k => intro ch c; exact close_derivesB _ _ rfl
  -- `wf (.ctor u)` is `derivesB 0 u` by definition
  | ctor t ih => intro ch c; exact close_derivesB _ _ (ih _ .group)
  | _ =>
    intro ch c
    simp only [elideAt]
    apply close_derivesB
    -- `*` is `key` and the induction hypotheses
    simp only [wf, *, Bool.and_self]

theorem elideAt_derives (tbl : Pos → Req) (htbl : Statement.TableOK tbl) (ch : Choice) (c : Ctx) (t : T) :
    Derives c.level (elideAt tbl ch c t) :=
  derives_of_derivesB (elideAt_derivesB tbl htbl t ch c)

theorem strip_close (c : Ctx) (u : T) : strip (close c u) = strip u := by
  rcases close_cases c u with ⟨h1, _⟩ | h1 <;> rw [h1]; rfl

theorem strip_elideAt (tbl : Pos → Req) (ch : Choice) (c : Ctx) (t : T) :
    strip (elideAt tbl ch c t) = strip t := by
  induction t generalizing ch c with
  | paren t ih =>
    simp only [elideAt]
    split <;> simp only [strip, ih]
  | _ => simp only [elideAt, strip_close, strip, *]

theorem isGroup_close_group (u : T) : isGroup (close .group u) = true := by
  cases u with
  | leaf k => cases k <;> rfl
  | _ => rfl

theorem isGroup_elideAt_group (tbl : Pos → Req) (ch : Choice) (t : T) :
    isGroup (elideAt tbl ch .group t) = true := by
  cases t <;> first
    | exact isGroup_close_group _
    | (simp only [elideAt, Ctx.accepts, Bool.false_and]; rfl)

end ZV.Grouping
