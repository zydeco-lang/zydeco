/-
C08 — releasing an `SccGraph` (`ZV/Model/Graph.lean`) piecemeal and in rounds, against
`ZV/Model/GraphSpec.lean`.

The tables of the graph are spoken of only through `Scc.Inv` (`ZV/Proofs/SccInv.lean`, where `CEdge`,
`Alive` and `DepsGone` are defined too): which groups `top` offers, and that releasing an offered id
keeps the invariant. Releasing, piecemeal or a whole
round, is a fold of `releaseOne` (`Scc.Inv.foldlM_releaseOne`). Both loops of the model (`drainGroups`
here, `topoLoop`, treated in `ZV/Proofs/ContextOrder.lean`) proceed by `Scc.Inv.round`, and make progress
because the condensation is finite and acyclic (`exists_sink`). The sequence emitted by `drainGroups` is
described by `Good`; once nothing is left it is a dependency-respecting decomposition.
-/
import ZV.Proofs.Kosaraju
import ZV.Proofs.SccInv

namespace ZV.Graph

private theorem Sched.Valid.length {σ : Sched} (hσ : σ.Valid) {xs : List Nat} : (σ xs).length = xs.length :=
  (hσ xs).length_eq

private theorem Sched.Valid.eq_nil {σ : Sched} (hσ : σ.Valid) {xs : List Nat} : σ xs = [] ↔ xs = [] := by
  rw [← List.length_eq_zero_iff, hσ.length, List.length_eq_zero_iff]

private theorem lookup_nil (u : Nat) : lookup [] u = none := rfl

private theorem lookup_of_mem_nodup {b : List (Nat × Nat)} {u c : Nat} (hn : (b.map (·.1)).Nodup)
    (h : (u, c) ∈ b) : lookup b u = some c := by
  exact assoc_of_mem_nodup hn h

section
variable {deps : AMap} {b : List (Nat × Nat)} (hb : IsSccLabeling deps b)
include hb

theorem IsSccLabeling.exists_label {u : Nat} (hu : u ∈ allNodes deps) : ∃ c, lookup b u = some c :=
  Option.isSome_iff_exists.mp ((hb.2.1 u).mp hu)

theorem IsSccLabeling.mem_allNodes {u c : Nat} (hu : lookup b u = some c) : u ∈ allNodes deps :=
  (hb.2.1 u).mpr (by rw [hu]; rfl)

theorem IsSccLabeling.eq_iff {u v cu cv : Nat} (hu : lookup b u = some cu) (hv : lookup b v = some cv) :
    cu = cv ↔ SameScc deps u v := hb.2.2 u v cu cv hu hv

theorem IsSccLabeling.sameScc {u v c : Nat} (hu : lookup b u = some c) (hv : lookup b v = some c) :
    SameScc deps u v := (hb.eq_iff hu hv).mp rfl

theorem IsSccLabeling.mem_gone_of_depsGone {gone : List Nat} {u v c : Nat} (hu : lookup b u = some c)
    (hroot : DepsGone deps b gone c) (he : Edge deps u v) (hns : ¬ SameScc deps u v) : v ∈ gone := by
  obtain ⟨d, hd⟩ := hb.exists_label he.mem_allNodes_right
  exact not_alive_iff.mp (hroot d ⟨fun hcd => hns ((hb.eq_iff hu hd).mp hcd), u, v, hu, hd, he⟩) v hd

end

theorem kosaraju_ok {σ : Sched} (hσ : σ.Valid) {deps : AMap} (hk : deps.keys.Nodup) :
    ∃ g b, kosaraju σ deps = .ok g ∧ IsSccLabeling deps b ∧ Scc.Inv deps b [] g := by
  obtain ⟨b, hb, hlab⟩ := kosaraju_master hσ hk
  obtain ⟨g, hg, hinv⟩ := Scc.new_spec hσ deps b fun u v _ _ hv =>
    (hlab.2.1 v).mp (Edge.mem_allNodes_right (u := u) hv)
  refine ⟨g, b, ?_, hlab, hinv⟩
  unfold kosaraju
  rw [hb]
  exact hg

inductive DrainRTC {α : Type} (E : α → α → Prop) : α → α → Prop
  | refl (a : α) : DrainRTC E a a
  | step {a b c : α} : E a b → DrainRTC E b c → DrainRTC E a c

theorem DrainRTC.trans {α : Type} {E : α → α → Prop} {a b c : α} (h1 : DrainRTC E a b) (h2 : DrainRTC E b c) :
    DrainRTC E a c := by
  induction h1 with
  | refl => exact h2
  | step e _ ih => exact DrainRTC.step e (ih h2)

theorem DrainRTC.single {α : Type} {E : α → α → Prop} {a b : α} (h : E a b) : DrainRTC E a b :=
  DrainRTC.step h (DrainRTC.refl b)

open Classical in
/-- In a finite acyclic relation, every non-empty set `P` has an element without a successor
in `P`: along a path inside `P` the number of elements of `U` that are reachable falls. -/
theorem exists_sink {α : Type} (U : List α) (E : α → α → Prop) (P : α → Prop)
    (hU : ∀ x, P x → x ∈ U)
    (hacyc : ∀ x y, E x y → ¬ DrainRTC E y x)
    (x0 : α) (hx0 : P x0) : ∃ r, P r ∧ ∀ d, E r d → ¬ P d := by
  generalize hn : U.countP (fun y => decide (DrainRTC E x0 y)) = n
  induction n using Nat.strongRecOn generalizing x0 with
  | ind n ih =>
    by_cases hsucc : ∃ d, E x0 d ∧ P d
    · obtain ⟨d, hd, hpd⟩ := hsucc
      refine ih _ ?_ d hpd rfl
      rw [← hn]
      exact countP_lt_countP (fun y _ h => decide_eq_true (DrainRTC.step hd (of_decide_eq_true h)))
        (hU x0 hx0) (decide_eq_false (hacyc x0 d hd)) (decide_eq_true (DrainRTC.refl x0))
    · exact ⟨x0, hx0, fun d hd hpd => hsucc ⟨d, hd, hpd⟩⟩

theorem IsSccLabeling.reach_of_creach {deps : AMap} {b : List (Nat × Nat)} (hb : IsSccLabeling deps b)
    {c d : Nat} (h : DrainRTC (CEdge deps b) c d) {u v : Nat} (hu : lookup b u = some c)
    (hv : lookup b v = some d) : Reach deps u v := by
  induction h generalizing u with
  | refl => exact (hb.sameScc hu hv).1
  | step e _ ih =>
    obtain ⟨_, u', w, hu', hw, he⟩ := e
    exact (hb.sameScc hu hu').1.trans (Reach.step he (ih hw hv))

theorem IsSccLabeling.acyclic {deps : AMap} {b : List (Nat × Nat)} (hb : IsSccLabeling deps b)
    (c d : Nat) (h : CEdge deps b c d) : ¬ DrainRTC (CEdge deps b) d c := by
  intro hr
  obtain ⟨u, v, hu, hv, _⟩ := h.2
  exact h.1 ((hb.eq_iff hu hv).mpr
    ⟨hb.reach_of_creach (DrainRTC.single h) hu hv, hb.reach_of_creach hr hv hu⟩)

section release
variable {σ : Sched} (hσ : σ.Valid) {deps : AMap} {b : List (Nat × Nat)} {gone : List Nat} {g : Scc}
  (hinv : Scc.Inv deps b gone g)
include hσ hinv

theorem Scc.Inv.foldlM_releaseOne (ids : List Nat)
    (hids : ∀ (k : Nat) (gk : Scc) (id : Nat), (ids.take k).foldlM (Scc.releaseOne σ) g = .ok gk →
      Scc.Inv deps b ((ids.take k).reverse ++ gone) gk → ids[k]? = some id →
      id ∉ (ids.take k).reverse ++ gone ∧
        ∃ c, lookup b id = some c ∧ DepsGone deps b ((ids.take k).reverse ++ gone) c) :
    ∃ g', ids.foldlM (Scc.releaseOne σ) g = .ok g' ∧ Scc.Inv deps b (ids.reverse ++ gone) g' := by
  have hpre : ∀ k, k ≤ ids.length → ∃ gk, (ids.take k).foldlM (Scc.releaseOne σ) g = .ok gk ∧
      Scc.Inv deps b ((ids.take k).reverse ++ gone) gk := by
    intro k hk
    induction k with
    | zero => exact ⟨g, rfl, hinv⟩
    | succ k ih =>
      obtain ⟨gk, hgk, hinvk⟩ := ih (Nat.le_of_succ_le hk)
      have hid : ids[k]? = some ids[k] := List.getElem?_eq_getElem hk
      obtain ⟨hng, c, hc, hroot⟩ := hids k gk _ hgk hinvk hid
      obtain ⟨g', hg', hinv'⟩ := Scc.releaseOne_preserves_inv hσ hinvk hc hng hroot
      rw [List.take_add_one, hid, Option.toList_some, List.foldlM_append, hgk, List.reverse_append]
      exact ⟨g', (bind_pure _).trans hg', hinv'⟩
  have := hpre ids.length (Nat.le_refl _)
  rwa [List.take_length] at this

theorem Scc.Inv.mem_offer {x : Nat} :
    x ∈ (g.top σ).flatMap id ↔ (x ∉ gone ∧ ∃ c, lookup b x = some c ∧ DepsGone deps b gone c) := by
  constructor
  · intro hx
    obtain ⟨grp, hgrp, hmem⟩ := List.mem_flatMap.mp hx
    obtain ⟨c, hc, _, hroot, _⟩ := hinv.of_mem_top hσ hgrp
    exact ⟨((hc x).mp hmem).2, c, ((hc x).mp hmem).1, hroot⟩
  · rintro ⟨hng, c, hc, hroot⟩
    obtain ⟨grp, hgrp, hmem⟩ := hinv.exists_mem_top hσ ⟨x, hc, hng⟩ hroot
    exact List.mem_flatMap.mpr ⟨grp, hgrp, (hmem x).mpr ⟨hc, hng⟩⟩

theorem Scc.Inv.round {ids : List Nat} (hids : ids.Perm ((g.top σ).flatMap id)) :
    ∃ g', g.release σ ids = .ok g' ∧ Scc.Inv deps b ((σ ids).reverse ++ gone) g' ∧
      gone.length + ids.length ≤ b.length := by
  have hnd : ids.Nodup := hids.nodup_iff.mpr (hinv.top_nodup hσ)
  obtain ⟨g', hrel, hinv'⟩ := hinv.foldlM_releaseOne hσ (σ ids) fun k gk x _ _ hx => by
    -- `x` was on offer at the start; what went since is not `x` and revives no dependency
    obtain ⟨hng, c, hc, hroot⟩ :=
      (hinv.mem_offer hσ).mp (hids.mem_iff.mp (hσ.mem_iff.mp (List.mem_of_getElem? hx)))
    have hpre : ((σ ids).take (k + 1)).Nodup := (hσ.nodup.mpr hnd).sublist (List.take_sublist _ _)
    rw [List.take_add_one, hx, Option.toList_some, nodup_append_singleton] at hpre
    refine ⟨?_, c, hc, hroot.mono fun y hy => List.mem_append_right _ hy⟩
    rw [List.mem_append, List.mem_reverse, not_or]
    exact ⟨hpre.1, hng⟩
  refine ⟨g', ?_, hinv', ?_⟩
  · unfold Scc.release
    rw [eraseDups_eq_self hnd]
    exact hrel
  · have := hinv'.gone_nodup.length_le_of_subset (l₂ := b.map (·.1))
      fun u hu => lookup_isSome.mp (hinv'.gone_sub u hu)
    simpa [hσ.length, Nat.add_comm] using this

theorem Scc.Inv.ne_nil_of_mem_top {grp : IdSet} (hgrp : grp ∈ g.top σ) : grp ≠ [] := by
  obtain ⟨c, hc, ⟨v, hv, hvn⟩, _⟩ := hinv.of_mem_top hσ hgrp
  exact List.ne_nil_of_mem ((hc v).mpr ⟨hv, hvn⟩)

theorem Scc.Inv.exists_offer (hb : IsSccLabeling deps b) {c : Nat} (hc : Alive b gone c) :
    ∃ u, u ∈ (g.top σ).flatMap id := by
  -- among the unreleased components, one depends on no other
  obtain ⟨r, ⟨v, hv, hvn⟩, hroot⟩ := exists_sink (b.map (·.2)) (CEdge deps b) (Alive b gone)
    (fun x ⟨v, hv, _⟩ => List.mem_map.mpr ⟨(v, x), lookup_mem hv, rfl⟩) hb.acyclic c hc
  exact ⟨v, (hinv.mem_offer hσ).mpr ⟨hvn, r, hv, hroot⟩⟩

end release

/-- `E` lists the groups emitted so far and `gone` their ids: whole components, each after all
that it depends on. -/
structure Good (deps : AMap) (b : List (Nat × Nat)) (gone : List Nat) (E : List IdSet) : Prop where
  nodup : (E.flatMap id).Nodup
  mem : ∀ u, u ∈ gone ↔ u ∈ E.flatMap id
  comp : ∀ grp ∈ E, grp ≠ [] ∧ ∃ c, ∀ u, u ∈ grp ↔ lookup b u = some c
  ordered : ∀ i grp, E[i]? = some grp → ∀ u ∈ grp, ∀ v, Edge deps u v → ¬ SameScc deps u v →
    v ∈ (E.take i).flatMap id

theorem Good.whole {deps : AMap} {b : List (Nat × Nat)} {gone : List Nat} {E : List IdSet}
    (hg : Good deps b gone E) {c : Nat} (hc : Alive b gone c) {u : Nat} (hu : lookup b u = some c) :
    u ∉ gone := by
  intro hug
  rw [hg.mem, List.mem_flatMap] at hug
  obtain ⟨grp, hgrp, hmem⟩ := hug
  obtain ⟨_, c', hc'⟩ := hg.comp grp hgrp
  cases hu.symm.trans ((hc' u).mp hmem)
  obtain ⟨v, hv, hvn⟩ := hc
  exact hvn ((hg.mem v).mpr (List.mem_flatMap.mpr ⟨grp, hgrp, (hc' v).mpr hv⟩))

theorem Good.round {σ : Sched} (hσ : σ.Valid) {deps : AMap} {b : List (Nat × Nat)}
    (hb : IsSccLabeling deps b) {gone gone' : List Nat} {g : Scc} {E R : List IdSet}
    (hinv : Scc.Inv deps b gone g) (hgood : Good deps b gone E)
    (hR : R.Perm (g.top σ))
    (hgone' : ∀ u, u ∈ gone' ↔ (u ∈ (g.top σ).flatMap id ∨ u ∈ gone)) :
    Good deps b gone' (E ++ R) := by
  -- as only whole components are gone, an offered group is a whole component
  have htop : ∀ grp ∈ R, ∃ c, (∀ u, u ∈ grp ↔ lookup b u = some c) ∧ (∀ u ∈ grp, u ∉ gone) ∧
      DepsGone deps b gone c := by
    intro grp hgrp
    obtain ⟨c, hc, halive, hroot, _⟩ := hinv.of_mem_top hσ (hR.mem_iff.mp hgrp)
    exact ⟨c, fun u => (hc u).trans (and_iff_left_of_imp (hgood.whole halive)),
      fun u hu => ((hc u).mp hu).2, hroot⟩
  constructor
  · rw [List.flatMap_append, List.nodup_append]
    refine ⟨hgood.nodup, (hR.flatMap_right id).nodup_iff.mpr (hinv.top_nodup hσ), ?_⟩
    rintro x hx y hy rfl
    obtain ⟨grp, hgrp, hmem⟩ := List.mem_flatMap.mp hy
    obtain ⟨_, _, hng, _⟩ := htop grp hgrp
    exact hng x hmem ((hgood.mem x).mpr hx)
  · intro u
    rw [hgone', List.flatMap_append, List.mem_append, (hR.flatMap_right id).mem_iff, hgood.mem]
    exact Or.comm
  · intro grp hgrp
    rcases List.mem_append.mp hgrp with h | h
    · exact hgood.comp grp h
    · obtain ⟨c, hc, _⟩ := htop grp h
      exact ⟨hinv.ne_nil_of_mem_top hσ (hR.mem_iff.mp h), c, hc⟩
  · intro i grp hi u hu v he hns
    rcases Nat.lt_or_ge i E.length with hlt | hle
    · rw [List.getElem?_append_left hlt] at hi
      rw [List.take_append_of_le_length (Nat.le_of_lt hlt)]
      exact hgood.ordered i grp hi u hu v he hns
    · rw [List.getElem?_append_right hle] at hi
      obtain ⟨c, hc, _, hroot⟩ := htop grp (List.mem_of_getElem? hi)
      rw [List.take_append, List.flatMap_append, List.mem_append, List.take_of_length_le hle]
      exact Or.inl ((hgood.mem v).mp (hb.mem_gone_of_depsGone ((hc u).mp hu) hroot he hns))

theorem Good.isDepsFirst {deps : AMap} {b : List (Nat × Nat)} (hb : IsSccLabeling deps b)
    {gone : List Nat} {E : List IdSet} (hgood : Good deps b gone E)
    (hdone : ∀ c, ¬ Alive b gone c) : IsDepsFirst deps E := by
  refine ⟨hgood.nodup, ?_, ?_, ?_⟩
  · intro u
    constructor
    · intro h
      obtain ⟨c, hc⟩ := hb.exists_label h
      exact (hgood.mem u).mp (not_alive_iff.mp (hdone c) u hc)
    · intro h
      obtain ⟨grp, hgrp, hmem⟩ := List.mem_flatMap.mp h
      obtain ⟨_, c, hc⟩ := hgood.comp grp hgrp
      exact hb.mem_allNodes ((hc u).mp hmem)
  · intro grp hgrp
    obtain ⟨hne, c, hc⟩ := hgood.comp grp hgrp
    refine ⟨hne, fun u hu v => ?_⟩
    have hu' := (hc u).mp hu
    refine (hc v).trans ⟨hb.sameScc hu', fun hs => ?_⟩
    obtain ⟨d, hd⟩ := hb.exists_label (SameScc.mem_allNodes hs (hb.mem_allNodes hu'))
    rw [hd, ← (hb.eq_iff hu' hd).mpr hs]
  · intro i j gi gj hi hj u hu v hv he hns
    -- otherwise `v` occurs both before position `i` and, in `gj`, from it on
    refine Nat.lt_of_not_le fun hle => ?_
    have hgj : gj ∈ E.drop i := List.mem_of_getElem? (i := j - i) (by
      rw [List.getElem?_drop, Nat.add_sub_cancel' hle]
      exact hj)
    have hnd := hgood.nodup
    rw [← List.take_append_drop i E, List.flatMap_append, List.nodup_append] at hnd
    exact hnd.2.2 v (hgood.ordered i gi hi u hu v he hns) v (List.mem_flatMap.mpr ⟨gj, hgj, hv⟩) rfl

theorem length_le_flatMap_id (l : List IdSet) (h : ∀ g ∈ l, g ≠ []) :
    l.length ≤ (l.flatMap id).length := by
  induction l with
  | nil => simp
  | cons a l ih =>
    have := ih (fun g hg => h g (List.mem_cons_of_mem _ hg))
    have : 0 < a.length := List.length_pos_iff.mpr (h a List.mem_cons_self)
    simp only [List.flatMap_cons, List.length_cons, List.length_append, id]
    omega

/-- `queue` is `ready` in the order it is popped. Fuel: one unit per group emitted, and a round
queues no more groups than it releases ids; one more unit for the last round, which finds nothing. -/
theorem drain_spec {σ : Sched} (hσ : σ.Valid) {deps : AMap} {b : List (Nat × Nat)}
    (hb : IsSccLabeling deps b) :
    ∀ (fuel : Nat) (comps : Scc) (queue out : List IdSet) (gone : List Nat),
      Scc.Inv deps b gone comps → Good deps b gone (out ++ queue) →
      (b.length - gone.length) + queue.length + 1 ≤ fuel →
      ∃ groups, drainGroups σ fuel comps queue.reverse out = .ok groups ∧ IsDepsFirst deps groups := by
  intro fuel
  induction fuel with
  | zero => exact fun _ _ _ _ _ _ h => absurd h (Nat.not_succ_le_zero _)
  | succ fuel ih =>
    intro comps queue out gone hinv hgood hfuel
    rw [drainGroups, List.reverse_reverse]
    cases queue with
    | cons g rest =>
      refine ih comps rest (out ++ [g]) gone hinv ?_ (Nat.le_of_succ_le_succ hfuel)
      rw [List.append_assoc]
      exact hgood
    | nil =>
      rw [List.append_nil] at hgood
      by_cases ht : comps.top σ = []
      · refine ⟨out, by simp [ht], hgood.isDepsFirst hb fun c hc => ?_⟩
        obtain ⟨u, hu⟩ := hinv.exists_offer hσ hb hc
        rw [ht] at hu
        cases hu
      · obtain ⟨comps', hrel, hinv', hlen⟩ := hinv.round hσ (List.Perm.refl _)
        obtain ⟨g, rest, hq⟩ := List.exists_cons_of_ne_nil (mt List.reverse_eq_nil_iff.mp ht)
        simp only [List.isEmpty_iff, ht, if_false, hrel, bind, Except.bind, hq]
        refine ih comps' rest (out ++ [g]) _ hinv' ?_ ?_
        · rw [List.append_assoc, List.singleton_append, ← hq]
          exact hgood.round hσ hb hinv (List.reverse_perm _) fun u => by
            rw [List.mem_append, List.mem_reverse, hσ.mem_iff]
        · have h1 := length_le_flatMap_id (comps.top σ) fun g hg => hinv.ne_nil_of_mem_top hσ hg
          have h2 := congrArg List.length hq
          simp only [List.length_append, List.length_reverse, List.length_cons, hσ.length,
            List.length_nil] at h2 hfuel ⊢
          omega

theorem drain_ok {σ : Sched} (hσ : σ.Valid) {deps : AMap} (hk : deps.keys.Nodup) :
    ∃ g, kosaraju σ deps = .ok g ∧ ∃ groups,
      drainGroups σ (2 * (allNodes deps).length + 2) g [] [] = .ok groups ∧ IsDepsFirst deps groups := by
  obtain ⟨g, b, hg, hlab, hinv⟩ := kosaraju_ok hσ hk
  have hlen : b.length ≤ (allNodes deps).length := by
    simpa using hlab.1.length_le_of_subset (l₂ := allNodes deps)
      (fun u hu => (hlab.2.1 u).mpr (lookup_isSome.mpr hu))
  refine ⟨g, hg, drain_spec hσ hlab _ g [] [] [] hinv ⟨List.nodup_nil, fun _ => Iff.rfl, nofun, nofun⟩ ?_⟩
  simp only [List.length_nil]
  omega

end ZV.Graph
