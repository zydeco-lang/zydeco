/-
C08 — the list-backed sets and maps of `ZV/Model/Graph.lean`, and what else the later modules share.

`lookup` and `AMap.get?` are `assoc` (`ZV/Proofs/Assoc.lean`) at two value types. Every in-place update
of a map is an `AMap.mapAt`. Every map of the model that is built by `AMap.add` alone (`reverse`, the
tables of `Scc.new`, the node graph of `fromBindings`) is an `AMap.addAll`, and is known through its
keys (`isSome_get?_addAll`), its rows (`mem_query_addAll`) and `wf_addAll`.
-/
import ZV.Model.Graph
import ZV.Model.GraphSpec
import ZV.Proofs.Assoc

namespace ZV.Graph

theorem Sched.Valid.mem_iff {σ : Sched} (hσ : σ.Valid) {xs : List Nat} {x : Nat} :
    x ∈ σ xs ↔ x ∈ xs := (hσ xs).mem_iff

theorem Sched.Valid.nodup {σ : Sched} (hσ : σ.Valid) {xs : List Nat} : (σ xs).Nodup ↔ xs.Nodup :=
  (hσ xs).nodup_iff

theorem foldl_rel {α β γ : Type} (R : β → γ → Prop) (S : α → γ → Prop) (f : β → α → β)
    (l : List α) (h : ∀ acc, ∀ a ∈ l, ∀ z, R (f acc a) z ↔ (R acc z ∨ S a z)) (acc : β) (z : γ) :
    R (l.foldl f acc) z ↔ (R acc z ∨ ∃ a ∈ l, S a z) := by
  induction l generalizing acc with
  | nil => simp
  | cons a l ih =>
    rw [List.foldl_cons, ih (fun acc a' ha' => h acc a' (List.mem_cons_of_mem _ ha')),
      h acc a List.mem_cons_self]
    simp only [List.mem_cons, exists_eq_or_imp, or_assoc]

theorem foldlM_eq_ok {α β ε : Type} (P : β → Prop) {f : β → α → Except ε β} {g : β → α → β}
    (l : List α) (acc : β) (h : ∀ acc, ∀ a ∈ l, P acc → f acc a = .ok (g acc a) ∧ P (g acc a))
    (h0 : P acc) : l.foldlM f acc = .ok (l.foldl g acc) := by
  induction l generalizing acc with
  | nil => rfl
  | cons a l ih =>
    rw [List.foldlM_cons, (h acc a List.mem_cons_self h0).1]
    exact ih _ (fun acc a' ha' => h acc a' (List.mem_cons_of_mem _ ha'))
      (h acc a List.mem_cons_self h0).2

theorem foldlM_eq_ok' {α β ε : Type} {f : β → α → Except ε β} {g : β → α → β} {l : List α} {acc : β}
    (h : ∀ acc, ∀ a ∈ l, f acc a = .ok (g acc a)) : l.foldlM f acc = .ok (l.foldl g acc) :=
  foldlM_eq_ok (fun _ => True) l acc (fun acc a ha _ => ⟨h acc a ha, trivial⟩) trivial

theorem mapM_eq_ok {α β ε : Type} {f : α → Except ε β} (g : α → β) (l : List α)
    (h : ∀ x ∈ l, f x = .ok (g x)) : l.mapM f = .ok (l.map g) := by
  induction l with
  | nil => rfl
  | cons a l ih =>
    rw [List.mapM_cons, h a List.mem_cons_self, ih (fun x hx => h x (List.mem_cons_of_mem _ hx))]
    rfl

/-- Strict monotonicity of `countP`: the measure of both depth-first searches and of `exists_sink`. -/
theorem countP_lt_countP {α : Type} {p q : α → Bool} {l : List α} (h : ∀ x ∈ l, p x → q x)
    {a : α} (ha : a ∈ l) (hp : p a = false) (hq : q a = true) : l.countP p < l.countP q := by
  obtain ⟨s, t, rfl⟩ := List.append_of_mem ha
  have hs : s.countP p ≤ s.countP q :=
    List.countP_mono_left fun x hx => h x (List.mem_append_left _ hx)
  have ht : t.countP p ≤ t.countP q :=
    List.countP_mono_left fun x hx => h x (List.mem_append_right _ (List.mem_cons_of_mem _ hx))
  rw [List.countP_append, List.countP_append, List.countP_cons_of_neg (Bool.eq_false_iff.mp hp),
    List.countP_cons_of_pos hq]
  omega

theorem eraseDups_eq_self {α : Type} [BEq α] [LawfulBEq α] {l : List α} (h : l.Nodup) :
    l.eraseDups = l := by
  induction l with
  | nil => rfl
  | cons a l ih =>
    rw [List.nodup_cons] at h
    rw [List.eraseDups_cons, List.filter_eq_self.mpr, ih h.2]
    intro x hx
    simpa using fun hxa : x = a => h.1 (hxa ▸ hx)

theorem eq_of_pairwise_of_mem_iff {α : Type} {R : α → α → Prop} {l₁ l₂ : List α}
    (h1 : l₁.Pairwise R) (h2 : l₂.Pairwise R)
    (hasym : ∀ x ∈ l₁, ∀ y ∈ l₁, R x y → R y x → False) (hmem : ∀ x, x ∈ l₁ ↔ x ∈ l₂) : l₁ = l₂ := by
  have irr : ∀ x ∈ l₁, ¬ R x x := fun x hx hr => hasym x hx x hx hr hr
  have nd1 : l₁.Nodup := h1.imp_of_mem fun ha _ hr he => by
    subst he
    exact irr _ ha hr
  have nd2 : l₂.Nodup := h2.imp_of_mem fun ha _ hr he => by
    subst he
    exact irr _ ((hmem _).mpr ha) hr
  exact ((List.perm_ext_iff_of_nodup nd1 nd2).mpr hmem).eq_of_pairwise
    (fun a b ha hb h h' => (hasym a ha b ((hmem b).mpr hb) h h').elim) h1 h2

theorem IdSet.mem_insert {s : IdSet} {x y : Nat} : y ∈ IdSet.insert s x ↔ (y ∈ s ∨ y = x) := by
  unfold IdSet.insert
  split
  · next h => exact (or_iff_left_of_imp fun e => e ▸ List.contains_iff_mem.mp h).symm
  · exact List.mem_append.trans (or_congr_right List.mem_singleton)

theorem IdSet.nodup_insert {s : IdSet} {x : Nat} (hs : s.Nodup) : (IdSet.insert s x).Nodup := by
  unfold IdSet.insert
  split
  · exact hs
  · next h => exact nodup_append_singleton.mpr ⟨fun hx => h (List.contains_iff_mem.mpr hx), hs⟩

theorem IdSet.mem_union {s t : IdSet} {y : Nat} : y ∈ IdSet.union s t ↔ (y ∈ s ∨ y ∈ t) := by
  unfold IdSet.union
  rw [foldl_rel (fun (s : IdSet) y => y ∈ s) (fun x y => y = x) _ _
    (fun _ _ _ _ => IdSet.mem_insert)]
  simp

theorem IdSet.nodup_union {s t : IdSet} (hs : s.Nodup) : (IdSet.union s t).Nodup :=
  List.foldlRecOn _ _ hs fun _ h _ _ => IdSet.nodup_insert h

theorem IdSet.mem_remove {s : IdSet} {x y : Nat} : y ∈ IdSet.remove s x ↔ (y ∈ s ∧ y ≠ x) := by
  rw [IdSet.remove, List.mem_filter, bne_iff_ne]

theorem IdSet.nodup_remove {s : IdSet} {x : Nat} (hs : s.Nodup) : (IdSet.remove s x).Nodup :=
  hs.sublist List.filter_sublist

theorem IdSet.mem_foldl_remove {s l : IdSet} {y : Nat} :
    y ∈ l.foldl IdSet.remove s ↔ (y ∈ s ∧ y ∉ l) := by
  induction l generalizing s with
  | nil => simp
  | cons a l ih => rw [List.foldl_cons, ih, IdSet.mem_remove, List.mem_cons, not_or, and_assoc]

theorem IdSet.nodup_foldl_remove {s l : IdSet} (hs : s.Nodup) : (l.foldl IdSet.remove s).Nodup :=
  List.foldlRecOn _ _ hs fun _ h _ _ => IdSet.nodup_remove h

theorem lookup_isSome {b : List (Nat × Nat)} {u : Nat} :
    (lookup b u).isSome = true ↔ u ∈ b.map (·.1) := assoc_isSome

theorem lookup_mem {b : List (Nat × Nat)} {u c : Nat} (h : lookup b u = some c) : (u, c) ∈ b :=
  mem_of_assoc h

theorem lookup_filter_ne (b : List (Nat × Nat)) (id u : Nat) :
    lookup (b.filter (·.1 != id)) u = if u = id then none else lookup b u := assoc_filter_ne b id u

namespace AMap

theorem get?_nil (k : Nat) : get? [] k = none := rfl

theorem get?_cons (p : Nat × IdSet) (m : AMap) (k : Nat) :
    get? (p :: m) k = if p.1 = k then some p.2 else get? m k := assoc_cons p m k

theorem get?_append (m m' : AMap) (k : Nat) : get? (m ++ m') k = (get? m k).or (get? m' k) :=
  assoc_append m m' k

theorem hasKey_eq (m : AMap) (k : Nat) : m.hasKey k = (m.get? k).isSome := by
  rw [get?, Option.isSome_map, List.isSome_find?]
  rfl

theorem mem_keys {m : AMap} {k : Nat} : k ∈ m.keys ↔ (m.get? k).isSome = true := assoc_isSome.symm

theorem query_eq_of_get? {m : AMap} {k : Nat} {s : IdSet} (h : m.get? k = some s) : m.query k = s := by
  rw [query, h]; rfl

theorem get?_mem {m : AMap} {k : Nat} {s : IdSet} (h : m.get? k = some s) : (k, s) ∈ m := mem_of_assoc h

theorem get?_of_mem_nodup {m : AMap} {k : Nat} {s : IdSet} (hn : m.keys.Nodup) (h : (k, s) ∈ m) :
    m.get? k = some s := assoc_of_mem_nodup hn h

theorem mem_query {m : AMap} {k x : Nat} : x ∈ m.query k ↔ ∃ s, m.get? k = some s ∧ x ∈ s := by
  unfold query
  cases m.get? k <;> simp

theorem get?_remove (m : AMap) (k k' : Nat) :
    (m.remove k).get? k' = if k' = k then none else m.get? k' := assoc_filter_ne m k k'

theorem query_remove (m : AMap) (k k' : Nat) :
    (m.remove k).query k' = if k' = k then [] else m.query k' := by
  unfold query
  rw [get?_remove]
  split <;> rfl

/-- `m` with the value at key `k` replaced by its image under `f`: the shape of every in-place update
of the model (`add` on a present key, `removeFrom?`, the `strongs` update of `releaseOne`). -/
def mapAt (m : AMap) (k : Nat) (f : IdSet → IdSet) : AMap :=
  m.map fun p => if p.1 == k then (p.1, f p.2) else (p.1, p.2)

theorem get?_mapAt (m : AMap) (k : Nat) (f : IdSet → IdSet) (k' : Nat) :
    (m.mapAt k f).get? k' = if k' = k then (m.get? k').map f else m.get? k' := by
  induction m with
  | nil => exact (ite_self _).symm
  | cons p m ih =>
    rw [mapAt, List.map_cons, ← mapAt, get?_cons, get?_cons, ih]
    by_cases hp : p.1 = k'
    · subst hp
      by_cases hk : p.1 = k <;> simp [hk]
    · have : (if p.1 == k then (p.1, f p.2) else (p.1, p.2)).1 = p.1 := by split <;> rfl
      rw [this, if_neg hp, if_neg hp]

theorem isSome_get?_mapAt (m : AMap) (k : Nat) (f : IdSet → IdSet) (k' : Nat) :
    ((m.mapAt k f).get? k').isSome = (m.get? k').isSome := by
  rw [get?_mapAt]
  split <;> simp

theorem keys_mapAt (m : AMap) (k : Nat) (f : IdSet → IdSet) : (m.mapAt k f).keys = m.keys := by
  unfold keys mapAt
  rw [List.map_map]
  exact List.map_congr_left fun p _ => by simp only [Function.comp]; split <;> rfl

theorem add_eq (m : AMap) (k : Nat) (vs : List Nat) :
    m.add k vs = if m.hasKey k then m.mapAt k (IdSet.union · vs) else m ++ [(k, IdSet.union [] vs)] := rfl

theorem keys_add (m : AMap) (k : Nat) (vs : List Nat) :
    (m.add k vs).keys = if m.hasKey k then m.keys else m.keys ++ [k] := by
  rw [add_eq]
  split
  · exact keys_mapAt ..
  · exact List.map_append

theorem get?_add (m : AMap) (k : Nat) (vs : List Nat) (k' : Nat) :
    (m.add k vs).get? k' = if k' = k then some (IdSet.union (m.query k) vs) else m.get? k' := by
  rw [add_eq, hasKey_eq, query]
  cases hk : m.get? k with
  | some s =>
    rw [Option.isSome_some, if_pos rfl, get?_mapAt]
    split
    · next h =>
      rw [h, hk]
      rfl
    · rfl
  | none =>
    rw [Option.isSome_none, if_neg (by simp), get?_append, get?_cons]
    by_cases h : k' = k
    · simp [h, hk]
    · simp [h, Ne.symm h, get?_nil]

theorem mem_query_add {m : AMap} {k : Nat} {vs : List Nat} {k' x : Nat} :
    x ∈ (m.add k vs).query k' ↔ (x ∈ m.query k' ∨ (k' = k ∧ x ∈ vs)) := by
  unfold query
  rw [get?_add]
  by_cases hk : k' = k
  · subst hk
    simp [IdSet.mem_union, query]
  · simp [hk]

theorem isSome_get?_add {m : AMap} {k : Nat} {vs : List Nat} {k' : Nat} :
    ((m.add k vs).get? k').isSome = true ↔ ((m.get? k').isSome = true ∨ k' = k) := by
  rw [get?_add]
  by_cases hk : k' = k <;> simp [hk]

theorem wf_add {m : AMap} (h : WfGraph m) (k : Nat) (vs : List Nat) : WfGraph (m.add k vs) := by
  constructor
  · rw [keys_add]
    split
    · exact h.1
    · next hk =>
      exact nodup_append_singleton.mpr
        ⟨fun hmem => hk ((hasKey_eq m k).trans (mem_keys.mp hmem)), h.1⟩
  · intro k' s' hmem
    rw [add_eq] at hmem
    split at hmem
    · obtain ⟨p, hp, hpe⟩ := List.mem_map.mp hmem
      split at hpe <;> cases hpe
      · exact IdSet.nodup_union (h.2 _ _ hp)
      · exact h.2 _ _ hp
    · rcases List.mem_append.mp hmem with h' | h'
      · exact h.2 _ _ h'
      · cases List.mem_singleton.1 h'
        exact IdSet.nodup_union List.nodup_nil

theorem removeFrom?_eq (m : AMap) (k x : Nat) :
    m.removeFrom? k x = if (m.get? k).isSome then some (m.mapAt k (IdSet.remove · x)) else none := by
  rw [← hasKey_eq]; rfl

def addAll (m : AMap) (us : List (Nat × List Nat)) : AMap := us.foldl (fun m u => m.add u.1 u.2) m

theorem mem_query_addAll {m : AMap} {us : List (Nat × List Nat)} {k x : Nat} :
    x ∈ (m.addAll us).query k ↔ (x ∈ m.query k ∨ ∃ vs, (k, vs) ∈ us ∧ x ∈ vs) := by
  unfold addAll
  rw [foldl_rel (fun (m : AMap) (z : Nat × Nat) => z.2 ∈ m.query z.1)
    (fun (u : Nat × List Nat) z => z.1 = u.1 ∧ z.2 ∈ u.2) _ us (fun _ _ _ _ => mem_query_add) m (k, x)]
  refine or_congr_right ⟨?_, ?_⟩
  · rintro ⟨⟨k', vs⟩, hu, rfl, hx⟩
    exact ⟨vs, hu, hx⟩
  · rintro ⟨vs, hu, hx⟩
    exact ⟨(k, vs), hu, rfl, hx⟩

theorem isSome_get?_addAll {m : AMap} {us : List (Nat × List Nat)} {k : Nat} :
    ((m.addAll us).get? k).isSome = true ↔ ((m.get? k).isSome = true ∨ k ∈ us.map (·.1)) := by
  unfold addAll
  rw [foldl_rel (fun (m : AMap) (z : Nat) => (m.get? z).isSome = true)
    (fun (u : Nat × List Nat) z => z = u.1) _ us (fun _ _ _ _ => isSome_get?_add) m k]
  simp only [List.mem_map, eq_comm (a := k)]

theorem addAll_append (m : AMap) (us vs : List (Nat × List Nat)) :
    m.addAll (us ++ vs) = (m.addAll us).addAll vs := List.foldl_append

/-- Two maps filled side by side, as `Scc.new` fills `srcs` and `deps`. -/
theorem foldl_add_pair {α : Type} (u v : α → Nat × List Nat) (l : List α) (m n : AMap) :
    l.foldl (fun (p : AMap × AMap) a => (p.1.add (u a).1 (u a).2, p.2.add (v a).1 (v a).2)) (m, n) =
      (m.addAll (l.map u), n.addAll (l.map v)) := by
  induction l generalizing m n with
  | nil => rfl
  | cons a l ih => exact ih _ _

theorem wf_addAll {m : AMap} (h : WfGraph m) (us : List (Nat × List Nat)) : WfGraph (m.addAll us) :=
  List.foldlRecOn _ _ h fun _ h _ _ => wf_add h _ _

end AMap

theorem wf_nil : WfGraph [] := ⟨List.nodup_nil, fun _ _ h => by simp at h⟩

theorem mem_allNodes {deps : AMap} {u : Nat} :
    u ∈ allNodes deps ↔ ∃ p ∈ deps, (u = p.1 ∨ u ∈ p.2) := by
  unfold allNodes
  rw [foldl_rel (fun (acc : IdSet) (z : Nat) => z ∈ acc)
    (fun (p : Nat × IdSet) (z : Nat) => z = p.1 ∨ z ∈ p.2) _ deps
    (fun acc a _ z => by simp only [IdSet.mem_union, IdSet.mem_insert, or_assoc]) [] u]
  simp

theorem Edge.get? {deps : AMap} {u v : Nat} (h : Edge deps u v) : ∃ s, deps.get? u = some s ∧ v ∈ s :=
  AMap.mem_query.mp h

theorem Edge.mem_keys {deps : AMap} {u v : Nat} (h : Edge deps u v) : u ∈ deps.keys := by
  obtain ⟨s, hs, _⟩ := h.get?
  rw [AMap.mem_keys, hs]; rfl

theorem Edge.mem_allNodes_left {deps : AMap} {u v : Nat} (h : Edge deps u v) : u ∈ allNodes deps := by
  obtain ⟨s, hs, _⟩ := h.get?
  exact mem_allNodes.mpr ⟨(u, s), AMap.get?_mem hs, Or.inl rfl⟩

theorem Edge.mem_allNodes_right {deps : AMap} {u v : Nat} (h : Edge deps u v) : v ∈ allNodes deps := by
  obtain ⟨s, hs, hv⟩ := h.get?
  exact mem_allNodes.mpr ⟨(u, s), AMap.get?_mem hs, Or.inr hv⟩

theorem mem_allNodes_of_mem_keys {deps : AMap} {u : Nat} (h : u ∈ deps.keys) : u ∈ allNodes deps := by
  obtain ⟨p, hp, rfl⟩ := List.mem_map.mp h
  exact mem_allNodes.mpr ⟨p, hp, Or.inl rfl⟩

theorem mem_allNodes_iff {m : AMap} (hn : m.keys.Nodup) {u : Nat} :
    u ∈ allNodes m ↔ (u ∈ m.keys ∨ ∃ k, Edge m k u) := by
  constructor
  · intro h
    obtain ⟨p, hp, h | h⟩ := mem_allNodes.mp h
    · exact Or.inl (h ▸ List.mem_map.mpr ⟨p, hp, rfl⟩)
    · refine Or.inr ⟨p.1, ?_⟩
      rw [Edge, AMap.query_eq_of_get? (AMap.get?_of_mem_nodup hn (s := p.2) hp)]
      exact h
  · rintro (h | ⟨k, hk⟩)
    · exact mem_allNodes_of_mem_keys h
    · exact hk.mem_allNodes_right

theorem sortByKey_ins_perm (key : Nat → Nat) (x : Nat) (ys : List Nat) :
    (sortByKey.ins key x ys).Perm (x :: ys) := by
  induction ys with
  | nil => exact List.Perm.refl _
  | cons y ys ih =>
    unfold sortByKey.ins
    split
    · exact List.Perm.refl _
    · exact (List.Perm.cons y ih).trans (List.Perm.swap x y ys)

theorem sortByKey_perm (key : Nat → Nat) (xs : List Nat) : (sortByKey key xs).Perm xs := by
  induction xs with
  | nil => exact List.Perm.refl _
  | cons x xs ih =>
    unfold sortByKey
    exact (sortByKey_ins_perm key x _).trans (List.Perm.cons x ih)

theorem sortByKey_ins_sorted (key : Nat → Nat) (x : Nat) (ys : List Nat)
    (h : ys.Pairwise fun a b => key a ≤ key b) :
    (sortByKey.ins key x ys).Pairwise fun a b => key a ≤ key b := by
  induction ys with
  | nil => exact List.pairwise_singleton _ x
  | cons y ys ih =>
    unfold sortByKey.ins
    rw [List.pairwise_cons] at h
    split
    · next hlt =>
      refine List.pairwise_cons.mpr ⟨List.forall_mem_cons.mpr ⟨Nat.le_of_lt hlt, fun a ha => ?_⟩,
        List.pairwise_cons.mpr h⟩
      exact Nat.le_trans (Nat.le_of_lt hlt) (h.1 a ha)
    · next hnlt =>
      refine List.pairwise_cons.mpr ⟨fun a ha => ?_, ih h.2⟩
      rcases List.mem_cons.mp ((sortByKey_ins_perm key x ys).mem_iff.mp ha) with rfl | ha
      · exact Nat.le_of_not_lt hnlt
      · exact h.1 a ha

theorem sortByKey_sorted (key : Nat → Nat) (xs : List Nat) :
    (sortByKey key xs).Pairwise fun a b => key a ≤ key b := by
  induction xs with
  | nil => exact List.Pairwise.nil
  | cons x xs ih =>
    unfold sortByKey
    exact sortByKey_ins_sorted key x _ ih

theorem sortByKey_strict (key : Nat → Nat) (xs : List Nat) (hnd : xs.Nodup)
    (hinj : ∀ a ∈ xs, ∀ b ∈ xs, key a = key b → a = b) :
    (sortByKey key xs).Pairwise fun a b => key a < key b := by
  have hp := sortByKey_perm key xs
  refine ((sortByKey_sorted key xs).and (hp.nodup_iff.mpr hnd)).imp_of_mem fun ha hb h => ?_
  exact Nat.lt_of_le_of_ne h.1 fun heq => h.2 (hinj _ (hp.mem_iff.mp ha) _ (hp.mem_iff.mp hb) heq)

end ZV.Graph
