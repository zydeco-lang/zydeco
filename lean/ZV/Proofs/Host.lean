/-
C06 — what follows from the case analysis of `hostOp` (`hostOp_cases`): what an operation can do to
the handle tables, what the numeric fall-through computes (`hostOp_numeric`, `hostOp_int`: used by
the ZCore developments), where the arithmetic trap comes from, and that every role honours its
classifier; then what `ZV/Props/C06.lean` evaluates over the regenerated role table: the checker
`rowOk` with its soundness, and `nameKey` for the distinctness of names.
-/
import ZV.Props.C06Statements
import ZV.Proofs.HostText
import ZV.Proofs.HostCases
import ZV.Proofs.Assoc
import ZV.Proofs.Numeric

namespace ZV.Host
open ZV.Numeric ZV.Abi ZV.Props.C06

/-! Readers and writers are two tables of the same kind: a counter `n` that starts at `lo` (1 for
readers, 2 for writers) and the handles `ks` that are open. -/

def rkeys (σ : Host) : List Nat := σ.readers.map (·.1)
def wkeys (σ : Host) : List Nat := σ.writers.map (·.1)

theorem reader?_eq_none_iff (σ : Host) (h : Nat) : σ.reader? h = none ↔ h ∉ rkeys σ := assoc_eq_none

theorem writer?_eq_none_iff (σ : Host) (h : Nat) : σ.writer? h = none ↔ h ∉ wkeys σ := assoc_eq_none

/-- What a single host operation can do to one table. -/
inductive TStep (n : Nat) (ks : List Nat) (n' : Nat) (ks' : List Nat) : Prop
  | same (h1 : n' = n) (h2 : ks' = ks)
  | close (h : Nat) (h1 : n' = n) (h2 : ks' = ks.filter (· != h))
  | open (h1 : n' = n + 1) (h2 : ks' = ks ++ [n])

def TInv (lo n : Nat) (ks : List Nat) : Prop := lo ≤ n ∧ (∀ h ∈ ks, lo ≤ h ∧ h < n) ∧ ks.Nodup

theorem handleInv_iff (σ : Host) :
    Statement.HandleInv σ ↔ TInv 1 σ.nextReader (rkeys σ) ∧ TInv 2 σ.nextWriter (wkeys σ) :=
  ⟨fun ⟨a, b, c, d, e, f⟩ => ⟨⟨a, c, e⟩, ⟨b, d, f⟩⟩, fun ⟨⟨a, c, e⟩, ⟨b, d, f⟩⟩ => ⟨a, b, c, d, e, f⟩⟩

theorem inv_init : Statement.HandleInv {} := by
  refine ⟨Nat.le_refl _, Nat.le_refl _, ?_, ?_, ?_, ?_⟩ <;> simp

theorem TStep.inv {lo n n' : Nat} {ks ks' : List Nat} (st : TStep n ks n' ks') :
    TInv lo n ks → TInv lo n' ks' := by
  rintro ⟨i1, i2, i3⟩
  obtain ⟨rfl, rfl⟩ | ⟨h, rfl, rfl⟩ | ⟨rfl, rfl⟩ := st
  · exact ⟨i1, i2, i3⟩
  · exact ⟨i1, fun x hx => i2 x (List.mem_filter.1 hx).1, i3.filter _⟩
  · refine ⟨by omega, fun x hx => ?_, nodup_append_singleton.2 ⟨fun hn => Nat.lt_irrefl _ (i2 _ hn).2, i3⟩⟩
    rcases List.mem_append.1 hx with hx | hx
    · have := i2 x hx; omega
    · cases List.mem_singleton.1 hx; omega

theorem TStep.mono {n n' : Nat} {ks ks' : List Nat} (st : TStep n ks n' ks') : n ≤ n' := by
  cases st <;> omega

theorem TStep.closed {n n' : Nat} {ks ks' : List Nat} (st : TStep n ks n' ks') {h : Nat} (hlt : h < n)
    (hc : h ∉ ks) : h ∉ ks' := by
  obtain ⟨rfl, rfl⟩ | ⟨k, rfl, rfl⟩ | ⟨rfl, rfl⟩ := st
  · exact hc
  · exact fun hm => hc (List.mem_filter.1 hm).1
  · intro hm
    rcases List.mem_append.1 hm with hm | hm
    · exact hc hm
    · cases List.mem_singleton.1 hm; omega

def Step (σ σ' : Host) : Prop :=
  TStep σ.nextReader (rkeys σ) σ'.nextReader (rkeys σ') ∧
  TStep σ.nextWriter (wkeys σ) σ'.nextWriter (wkeys σ')

theorem Step.refl (σ : Host) : Step σ σ := ⟨.same rfl rfl, .same rfl rfl⟩

theorem rkeys_setReader (σ : Host) (h : Nat) (rest : Bytes) : rkeys (σ.setReader h rest) = rkeys σ := by
  simp only [rkeys, Host.setReader, List.map_map]
  refine List.map_congr_left fun ⟨k, b⟩ _ => ?_
  simp only [Function.comp]
  split <;> rfl

theorem Step.writeFile (σ : Host) (p : List Char) (f : Bytes → Bytes) : Step σ (σ.writeFile p f) := by
  unfold Host.writeFile; split <;> exact Step.refl σ

theorem Step.readWith {σ σ' : Host} {h : Nat} {take : Bytes → Bytes × Bytes} {got : Bytes}
    (e : readWith σ h take = some (got, σ')) : Step σ σ' := by
  unfold ZV.Host.readWith at e
  split at e
  · cases e; exact Step.refl σ
  · split at e
    · cases e; exact ⟨.same rfl (rkeys_setReader _ _ _), .same rfl rfl⟩
    · cases e

theorem Step.writeTo {σ σ' : Host} {h : Nat} {b : Bytes} (e : writeTo σ h b = some σ') : Step σ σ' := by
  unfold ZV.Host.writeTo at e
  split at e
  · cases e; exact Step.refl σ
  · split at e
    · cases e; exact Step.writeFile _ _ _
    · cases e

theorem hostOp_step (role : String) (args : List HV) (σ : Host) : Step σ (hostOp role args σ).1 := by
  unfold hostOp
  apply hostOp_cases (P := fun _ (r : Host × Out) => Step σ r.1)
  all_goals intros
  all_goals try exact Step.refl σ
  case io_read =>
    simp only
    split
    · exact Step.refl σ
    · split
      · next e => exact Step.readWith e
      · exact Step.refl σ
  case io_read_line =>
    split
    · next e => split <;> exact Step.readWith e
    · exact Step.refl σ
  case io_read_all =>
    split
    · next e => exact Step.readWith e
    · exact Step.refl σ
  case io_write_all =>
    split
    · next e => exact Step.writeTo e
    · exact Step.refl σ
  case io_flush =>
    split
    · next e => exact Step.writeTo e
    · exact Step.refl σ
  case io_close_reader =>
    rename_i hd _ _
    split
    · exact Step.refl σ
    · split
      · exact ⟨.close hd rfl (by simp [rkeys, List.filter_map, Function.comp_def]), .same rfl rfl⟩
      · exact Step.refl σ
  case io_close_writer =>
    rename_i hd _ _
    split
    · exact Step.refl σ
    · split
      · exact ⟨.same rfl rfl, .close hd rfl (by simp [wkeys, List.filter_map, Function.comp_def])⟩
      · exact Step.refl σ
  case fs_open_reader =>
    split
    · exact ⟨.open rfl (by simp [rkeys]), .same rfl rfl⟩
    · exact Step.refl σ
  case fs_create_writer => exact ⟨(Step.writeFile σ _ _).1, .open rfl (by simp [wkeys])⟩
  case fs_append_writer => exact ⟨(Step.writeFile σ _ _).1, .open rfl (by simp [wkeys])⟩
  case read_line =>
    split
    split
    · split <;> exact Step.refl σ
    · exact Step.refl σ
  case read_line_as_int =>
    split
    split
    · split <;> exact Step.refl σ
    · exact Step.refl σ
  case read_till_eof => split <;> exact Step.refl σ
  case other =>
    show Step σ (numericK (fun o => (σ, o)) role args).1
    rw [numericK_eq]
    exact Step.refl σ

theorem run_preserves {Q : Host → Prop} (hQ : ∀ {σ σ'}, Step σ σ' → Q σ → Q σ')
    (ops : List (String × List HV)) (σ : Host) (h : Q σ) : Q (Statement.runOps ops σ) :=
  List.foldlRecOn ops _ h fun σ hσ op _ => hQ (hostOp_step op.1 op.2 σ) hσ

theorem run_inv (ops : List (String × List HV)) (σ : Host) (hi : Statement.HandleInv σ) :
    Statement.HandleInv (Statement.runOps ops σ) ∧ σ.nextReader ≤ (Statement.runOps ops σ).nextReader ∧
      σ.nextWriter ≤ (Statement.runOps ops σ).nextWriter :=
  run_preserves
    (Q := fun τ => Statement.HandleInv τ ∧ σ.nextReader ≤ τ.nextReader ∧ σ.nextWriter ≤ τ.nextWriter)
    (fun st ⟨i, hr, hw⟩ =>
      ⟨(handleInv_iff _).2 ⟨st.1.inv ((handleInv_iff _).1 i).1, st.2.inv ((handleInv_iff _).1 i).2⟩,
       Nat.le_trans hr st.1.mono, Nat.le_trans hw st.2.mono⟩)
    ops σ ⟨hi, Nat.le_refl _, Nat.le_refl _⟩

theorem run_closedR (ops : List (String × List HV)) (σ : Host) (h : Nat)
    (hlt : h < σ.nextReader) (hc : σ.reader? h = none) : (Statement.runOps ops σ).reader? h = none :=
  (reader?_eq_none_iff _ _).2 (run_preserves (Q := fun τ => h < τ.nextReader ∧ h ∉ rkeys τ)
    (fun st ⟨a, b⟩ => ⟨Nat.lt_of_lt_of_le a st.1.mono, st.1.closed a b⟩)
    ops σ ⟨hlt, (reader?_eq_none_iff _ _).1 hc⟩).2

theorem run_closedW (ops : List (String × List HV)) (σ : Host) (h : Nat)
    (hlt : h < σ.nextWriter) (hc : σ.writer? h = none) : (Statement.runOps ops σ).writer? h = none :=
  (writer?_eq_none_iff _ _).2 (run_preserves (Q := fun τ => h < τ.nextWriter ∧ h ∉ wkeys τ)
    (fun st ⟨a, b⟩ => ⟨Nat.lt_of_lt_of_le a st.2.mono, st.2.closed a b⟩)
    ops σ ⟨hlt, (writer?_eq_none_iff _ _).1 hc⟩).2

theorem hostOp_numeric {role : String} (h0 : armIndex role = 0) (args : List HV) (σ : Host) :
    hostOp role args σ = (σ, numericOp role args) := by
  revert h0
  unfold hostOp
  apply hostOp_cases (P := fun i (r : Host × Out) => i = 0 → r = (σ, numericOp role args))
  case other =>
    intros
    show numericK (fun o => (σ, o)) role args = _
    rw [numericK_eq]
  all_goals
    intros
    rename_i h
    cases h

/-- The three local functions of `intOp` as definitions (`intOp_eq`). -/
def intArith (t : IntTy) (o : AOp) (args : List HV) : Out :=
  match args with
  | [.int t1 a, .int t2 b] =>
    if h1 : t1 = t then if h2 : t2 = t then
      match Numeric.arith t o (h1 ▸ a) (h2 ▸ b) with
      | .ok r => .ret (.int t r)
      | .trap => .trap
    else .shapeError else .shapeError
  | _ => .shapeError

def intBranch (t : IntTy) (o : COp) (args : List HV) : Out :=
  match args with
  | [.int t1 a, .int t2 b, .thunk _, .thunk _] =>
    if h1 : t1 = t then if h2 : t2 = t then
      if Numeric.cmp t o (h1 ▸ a) (h2 ▸ b) then .call 2 [] else .call 3 []
    else .shapeError else .shapeError
  | _ => .shapeError

def intToStr (t : IntTy) (args : List HV) : Out :=
  match args with
  | [.int t1 a] => if h1 : t1 = t then .ret (.str (Numeric.toStr t (h1 ▸ a))) else .shapeError
  | _ => .shapeError

theorem intOp_eq (t : IntTy) (op : String) (args : List HV) :
    intOp t op args =
      match op with
      | "add" => intArith t .add args | "sub" => intArith t .sub args | "mul" => intArith t .mul args
      | "div" => intArith t .div args | "mod" => intArith t .rem args
      | "eq" => intBranch t .eq args | "lt" => intBranch t .lt args | "gt" => intBranch t .gt args
      | "to_string" => intToStr t args
      | _ => .shapeError := rfl

def intOps : List String := ["add", "sub", "mul", "div", "mod", "eq", "lt", "gt", "to_string"]

/-- No integer role is among the special arms (a finite fact about the two lists of names). -/
theorem armIndex_int : ∀ t ∈ IntTy.all, ∀ op ∈ intOps, armIndex (t.sourceName ++ "_" ++ op) = 0 := by
  decide +kernel

theorem hostOp_int (t : IntTy) (op : String) (hop : op ∈ intOps) (args : List HV) (σ : Host) :
    hostOp (t.sourceName ++ "_" ++ op) args σ = (σ, intOp t op args) := by
  have ht : t ∈ IntTy.all := by cases t <;> decide
  have hs : '_' ∉ t.sourceName.toList := by cases t <;> decide
  have hp : parseIntTy t.sourceName = some t := by cases t <;> decide
  rw [hostOp_numeric (armIndex_int t ht op hop), numericOp_int (splitOn_append_underscore _ _ hs) hp,
    intercalate_splitOn_underscore]

theorem intArith_trap {t : IntTy} {o : AOp} {args : List HV} (h : intArith t o args = .trap) :
    ∃ (a b : BitVec t.width), args = [.int t a, .int t b] ∧ b = 0 ∧ (o = .div ∨ o = .rem) := by
  unfold intArith at h
  split at h
  · next t1 a t2 b =>
    split at h
    · next h1 =>
      split at h
      · next h2 =>
        subst h1; subst h2
        split at h
        · cases h
        · next e => exact ⟨a, b, rfl, ((arith_eq_trap ..).1 e).2, ((arith_eq_trap ..).1 e).1⟩
      · cases h
    · cases h
  · cases h

theorem intBranch_ne_trap (t : IntTy) (o : COp) (args : List HV) : intBranch t o args ≠ .trap := by
  unfold intBranch; repeat' split
  all_goals simp

theorem intToStr_ne_trap (t : IntTy) (args : List HV) : intToStr t args ≠ .trap := by
  unfold intToStr; repeat' split
  all_goals simp

theorem intOp_trap {t : IntTy} {op : String} {args : List HV} (h : intOp t op args = .trap) :
    ∃ (a b : BitVec t.width), args = [.int t a, .int t b] ∧ b = 0 ∧ (op = "div" ∨ op = "mod") := by
  rw [intOp_eq] at h
  split at h
  · obtain ⟨a, b, e, hb, ho⟩ := intArith_trap h; simp at ho
  · obtain ⟨a, b, e, hb, ho⟩ := intArith_trap h; simp at ho
  · obtain ⟨a, b, e, hb, ho⟩ := intArith_trap h; simp at ho
  · obtain ⟨a, b, e, hb, ho⟩ := intArith_trap h; exact ⟨a, b, e, hb, Or.inl rfl⟩
  · obtain ⟨a, b, e, hb, ho⟩ := intArith_trap h; exact ⟨a, b, e, hb, Or.inr rfl⟩
  · exact absurd h (intBranch_ne_trap _ _ _)
  · exact absurd h (intBranch_ne_trap _ _ _)
  · exact absurd h (intBranch_ne_trap _ _ _)
  · exact absurd h (intToStr_ne_trap _ _)
  · cases h

theorem f32op_ne_trap (op : String) (a b : UInt32) : (f32op op a b).getD .shapeError ≠ .trap := by
  unfold f32op; simp only; split <;> simp

theorem f64op_ne_trap (op : String) (a b : UInt64) : (f64op op a b).getD .shapeError ≠ .trap := by
  unfold f64op; simp only; split <;> simp

theorem floatOp_ne_trap (ty op : String) (args : List HV) : floatOp ty op args ≠ .trap := by
  unfold floatOp floatK
  simp only [id]
  show _ = _ → False
  split
  all_goals first
    | exact f32op_ne_trap _ _ _
    | exact f64op_ne_trap _ _ _
    | (repeat' split) <;> simp

theorem numericOp_trap {role : String} {args : List HV} (h : numericOp role args = .trap) :
    ∃ (ty : String) (opParts : List String) (t : IntTy), role.splitOn "_" = ty :: opParts ∧
      parseIntTy ty = some t ∧ intOp t ("_".intercalate opParts) args = .trap := by
  unfold numericOp numericK at h
  split at h
  · next ty opParts hsp =>
    split at h
    · next t ht => exact ⟨ty, opParts, t, hsp, ht, h⟩
    · exact absurd h (floatOp_ne_trap _ _ _)
  · cases h

theorem optional_ne_trap (v : Option HV) (a b : Nat) : ZV.Host.optional v a b ≠ .trap := by
  unfold ZV.Host.optional; split <;> simp

theorem optionalPair_ne_trap (v : Option (List Char × List Char)) (a b : Nat) : optionalPair v a b ≠ .trap := by
  unfold optionalPair; split <;> simp

theorem hostOp_trap {role : String} {args : List HV} {σ : Host} (h : (hostOp role args σ).2 = .trap) :
    numericOp role args = .trap := by
  revert h
  unfold hostOp
  apply hostOp_cases (P := fun _ (r : Host × Out) => r.2 = .trap → numericOp role args = .trap)
  case other =>
    intro _ _ _ _
    show (numericK (fun o => (σ, o)) role args).2 = .trap → _
    rw [numericK_eq]; exact id
  all_goals
    intros
    rename_i h
    refine absurd h ?_
  all_goals first
    | exact optional_ne_trap _ _ _
    | exact optionalPair_ne_trap _ _ _
    | (simp only []; (repeat' split) <;> (intro h; cases h))

/-- `Statement.hostOp_respects_abi` for one role and classifier. -/
def Respects (role : String) (abi : VC) : Prop :=
  ∀ (ps : List VC) (res : CC), abi.opParams = some ps → abi.opResult = some res →
    ∀ (args : List HV) (σ : Host), argsHaveClass args ps = true →
      outAllowed ps res (hostOp role args σ).2 = true

theorem optional_map {α : Type} (f : α → HV) (x : Option α) (k₁ k₂ : Nat) :
    ZV.Host.optional (x.map f) k₁ k₂ =
      match x with
      | none => .call k₁ []
      | some a => .call k₂ [f a] := by
  cases x <;> rfl

theorem special_respects (role : String) (args : List HV) (σ : Host) :
    ∀ c, armAbi (armIndex role) = some (.thunk c) → argsHaveClass args c.params = true →
      outAllowed c.params c.result (hostOp role args σ).2 = true := by
  unfold hostOp
  apply hostOp_cases (P := fun i (r : Host × Out) => ∀ c, armAbi i = some (.thunk c) →
    argsHaveClass args c.params = true → outAllowed c.params c.result r.2 = true)
  case other =>
    intro i _ _ hs c hc hargs
    simp [shapeOk, hc, VC.opParams, hargs] at hs
  all_goals
    intros
    rename_i hc _
    cases hc
  all_goals first
    | rfl
    | (simp only [optional_map, optionalPair]; (repeat' split) <;> rfl)

def arithAbi (a : Atom) : VC := .thunk (.arrow (.atom a) (.arrow (.atom a) (.ret (.atom a))))
def branchAbi (a : Atom) : VC :=
  .thunk (.forallC (.arrow (.atom a) (.arrow (.atom a)
    (.arrow (.thunk (.bound 0)) (.arrow (.thunk (.bound 0)) (.bound 0))))))
def toStrAbi (a : Atom) : VC := .thunk (.arrow (.atom a) (.ret (.atom .str)))

theorem intArith_respects (t : IntTy) (o : AOp) {args : List HV}
    (h : argsHaveClass args [.atom (.int t), .atom (.int t)] = true) :
    outAllowed [.atom (.int t), .atom (.int t)] (.ret (.atom (.int t))) (intArith t o args) = true := by
  obtain ⟨⟨a, b, _⟩, rfl⟩ := build_of_argsHaveClass h
  show outAllowed _ _ (intArith t o [.int t a, .int t b]) = true
  simp only [intArith, dite_true]
  split
  · simp [outAllowed, hasClass]
  · rfl

theorem intBranch_respects (t : IntTy) (o : COp) {args : List HV}
    (h : argsHaveClass args [.atom (.int t), .atom (.int t), .thunk (.bound 0), .thunk (.bound 0)] = true) :
    outAllowed [.atom (.int t), .atom (.int t), .thunk (.bound 0), .thunk (.bound 0)] (.bound 0)
      (intBranch t o args) = true := by
  obtain ⟨⟨a, b, k, k', _⟩, rfl⟩ := build_of_argsHaveClass h
  show outAllowed _ _ (intBranch t o [.int t a, .int t b, .thunk k, .thunk k']) = true
  simp only [intBranch, dite_true]
  split <;> rfl

theorem intToStr_respects (t : IntTy) {args : List HV} (h : argsHaveClass args [.atom (.int t)] = true) :
    outAllowed [.atom (.int t)] (.ret (.atom .str)) (intToStr t args) = true := by
  obtain ⟨⟨a, _⟩, rfl⟩ := build_of_argsHaveClass h
  show outAllowed _ _ (intToStr t [.int t a]) = true
  simp only [intToStr, dite_true]
  rfl

/-- What is proved of the roles `<ty>_<op>` of a numeric type with atom `a` and arithmetic operations
`arith`: each kind of operation honours the classifier of its shape. -/
def NumericRespects (role op : String) (arith : List String) (a : Atom) : Prop :=
  (op ∈ arith → Respects role (arithAbi a)) ∧
  (op ∈ ["eq", "lt", "gt"] → Respects role (branchAbi a)) ∧
  (op = "to_string" → Respects role (toStrAbi a))

theorem int_respects {role ty : String} {opParts : List String} {t : IntTy} {op : String}
    (h0 : armIndex role = 0) (hsp : role.splitOn "_" = ty :: opParts) (ht : parseIntTy ty = some t)
    (hop : "_".intercalate opParts = op) :
    NumericRespects role op ["add", "sub", "mul", "div", "mod"] (.int t) := by
  have hn : ∀ args σ, (hostOp role args σ).2 = intOp t op args := by
    intro args σ
    rw [hostOp_numeric h0, numericOp_int hsp ht, hop]
  refine ⟨?_, ?_, ?_⟩
  all_goals
    intro hm ps res hps hres args σ hargs
    cases hps; cases hres
    rw [hn, intOp_eq]
  · simp only [List.mem_cons, List.not_mem_nil, or_false] at hm
    rcases hm with rfl | rfl | rfl | rfl | rfl <;> exact intArith_respects t _ hargs
  · simp only [List.mem_cons, List.not_mem_nil, or_false] at hm
    rcases hm with rfl | rfl | rfl <;> exact intBranch_respects t _ hargs
  · subst hm; exact intToStr_respects t hargs

theorem float_respects {role ty : String} {opParts : List String} {op : String} {a : Atom}
    (h0 : armIndex role = 0) (hsp : role.splitOn "_" = ty :: opParts)
    (hop : "_".intercalate opParts = op)
    (hty : ty = "float32" ∧ a = .f32 ∨ ty = "float64" ∧ a = .f64) :
    NumericRespects role op ["add", "sub", "mul", "div"] a := by
  have hn : ∀ args σ, (hostOp role args σ).2 = floatOp ty op args := by
    intro args σ
    rw [hostOp_numeric h0, numericOp_float hsp (by rcases hty with ⟨rfl, _⟩ | ⟨rfl, _⟩ <;> decide), hop]
  obtain ⟨rfl, rfl⟩ | ⟨rfl, rfl⟩ := hty
  all_goals
    refine ⟨?_, ?_, ?_⟩
    all_goals
      intro hm ps res hps hres args σ hargs
      cases hps; cases hres
      obtain ⟨xs, rfl⟩ := build_of_argsHaveClass hargs
      rw [hn]
    · simp only [List.mem_cons, List.not_mem_nil, or_false] at hm
      rcases hm with rfl | rfl | rfl | rfl <;> rfl
    · simp only [List.mem_cons, List.not_mem_nil, or_false] at hm
      rcases hm with rfl | rfl | rfl
      all_goals
        show outAllowed _ _ (if _ then Out.call 2 [] else Out.call 3 []) = true
        split <;> rfl
    · subst hm; rfl

mutual
  theorem VC.eq_of_beq : ∀ {a b : VC}, VC.beq a b = true → a = b := by
    intro a b h
    cases a <;> cases b <;> simp only [VC.beq, beq_iff_eq, Bool.false_eq_true] at h
    · rw [h]
    · rw [CC.eq_of_beq h]
  theorem CC.eq_of_beq : ∀ {a b : CC}, CC.beq a b = true → a = b := by
    intro a b h
    cases a <;> cases b <;> simp only [CC.beq, beq_iff_eq, Bool.and_eq_true, Bool.false_eq_true] at h
    · rfl
    · rw [h]
    · rw [VC.eq_of_beq h]
    · rw [VC.eq_of_beq h.1, CC.eq_of_beq h.2]
    · rw [CC.eq_of_beq h]
end

/-- Core's `List.splitOnPPrepend (· == sep)` (`splitL_eq`): `acc` is the piece being read, reversed. -/
def splitL (sep : Char) : List Char → List Char → List (List Char)
  | [], acc => [acc.reverse]
  | c :: cs, acc => if c = sep then acc.reverse :: splitL sep cs [] else splitL sep cs (c :: acc)

theorem splitL_eq (sep : Char) (l acc : List Char) :
    splitL sep l acc = List.splitOnPPrepend (· == sep) l acc := by
  induction l generalizing acc with
  | nil => rfl
  | cons c cs ih => simp [splitL, List.splitOnPPrepend, ih]

/-- The split of a role name at `_`, on its characters. It is `role.splitOn "_"` (`splitRole_eq`),
which recurses on byte positions by well-founded recursion and does not reduce inside the kernel. -/
def splitRole (role : String) : List String := (splitL '_' role.toList []).map String.ofList

theorem splitRole_eq (role : String) : splitRole role = role.splitOn "_" := by
  rw [splitRole, splitL_eq, splitOn_underscore]; rfl

/-- Is the row `(source, abi)` one that `special_respects`, `int_respects` or `float_respects` covers? -/
def rowOk (source : String) (abi : VC) : Bool :=
  let k := armIndex source
  if k != 0 then
    match armAbi k with
    | some a => VC.beq a abi
    | none => false
  else
    match splitRole source with
    | ty :: opParts =>
      let op := "_".intercalate opParts
      match parseIntTy ty with
      | some t =>
        (decide (op ∈ ["add", "sub", "mul", "div", "mod"]) && VC.beq (arithAbi (.int t)) abi) ||
        (decide (op ∈ ["eq", "lt", "gt"]) && VC.beq (branchAbi (.int t)) abi) ||
        (decide (op = "to_string") && VC.beq (toStrAbi (.int t)) abi)
      | none =>
        (decide (ty = "float32") &&
          ((decide (op ∈ ["add", "sub", "mul", "div"]) && VC.beq (arithAbi .f32) abi) ||
           (decide (op ∈ ["eq", "lt", "gt"]) && VC.beq (branchAbi .f32) abi) ||
           (decide (op = "to_string") && VC.beq (toStrAbi .f32) abi))) ||
        (decide (ty = "float64") &&
          ((decide (op ∈ ["add", "sub", "mul", "div"]) && VC.beq (arithAbi .f64) abi) ||
           (decide (op ∈ ["eq", "lt", "gt"]) && VC.beq (branchAbi .f64) abi) ||
           (decide (op = "to_string") && VC.beq (toStrAbi .f64) abi)))
    | [] => false

theorem NumericRespects.row_sound {role op : String} {arith : List String} {a : Atom} {abi : VC}
    (hr : NumericRespects role op arith a)
    (h : (decide (op ∈ arith) && VC.beq (arithAbi a) abi ||
          decide (op ∈ ["eq", "lt", "gt"]) && VC.beq (branchAbi a) abi ||
          decide (op = "to_string") && VC.beq (toStrAbi a) abi) = true) : Respects role abi := by
  simp only [Bool.or_eq_true, Bool.and_eq_true, decide_eq_true_eq] at h
  rcases h with (⟨hm, hb⟩ | ⟨hm, hb⟩) | ⟨hm, hb⟩ <;> cases VC.eq_of_beq hb
  · exact hr.1 hm
  · exact hr.2.1 hm
  · exact hr.2.2 hm

theorem rowOk_sound {source : String} {abi : VC} (h : rowOk source abi = true) : Respects source abi := by
  unfold rowOk at h
  simp only at h
  split at h
  · split at h
    · next a ha =>
      cases VC.eq_of_beq h
      intro ps res hps hres args σ
      cases abi with
      | atom _ => cases hps
      | thunk c => cases hps; cases hres; exact special_respects source args σ c ha
    · cases h
  · next hk =>
    have h0 : armIndex source = 0 := by simpa using hk
    split at h
    · next ty opParts hsp =>
      rw [splitRole_eq] at hsp
      split at h
      · next t ht => exact (int_respects h0 hsp ht rfl).row_sound h
      · rcases Bool.or_eq_true_iff.1 h with h | h <;> obtain ⟨hty, h⟩ := Bool.and_eq_true_iff.1 h
        · exact (float_respects h0 hsp rfl (.inl ⟨of_decide_eq_true hty, rfl⟩)).row_sound h
        · exact (float_respects h0 hsp rfl (.inr ⟨of_decide_eq_true hty, rfl⟩)).row_sound h
    · cases h

/-- A name as a number (its UTF-8 bytes as base-256 digits). Distinct numbers come from distinct
names, and the kernel compares numbers far more cheaply than `String`s. -/
def nameKey (s : String) : Nat := s.toByteArray.data.toList.foldl (fun n b => 256 * n + b.toNat) 0

theorem nodup_of_map {α β : Type} (f : α → β) {l : List α} (h : (l.map f).Nodup) : l.Nodup :=
  h.of_map f fun _ _ hne e => hne (congrArg f e)

/-- Numbers are distinct if those with the same remainder are: `m` short lists to compare within
instead of one long one. -/
theorem nodup_of_buckets (m : Nat) {l : List Nat}
    (h : ∀ b ∈ List.range m, (l.filter (· % m == b)).Nodup) (hm : 0 < m) : l.Nodup :=
  List.nodup_iff_count.2 fun a => by
    have := List.nodup_iff_count.1 (h (a % m) (List.mem_range.2 (Nat.mod_lt a hm))) a
    rwa [List.count_filter (by simp)] at this

end ZV.Host
