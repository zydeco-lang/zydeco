/-
Two computations of the same outermost form whose parts correspond (`Layer K`) evaluate in lockstep.
`step` carries a comparison of results over one constructor, with a fuel of its own for each side,
so that a correspondence which keeps the form away from some constructors only (the identity-monad
translation, C20) can use it there and spend extra fuel elsewhere; `lockstep` is the induction for
one that keeps it everywhere (the canonical renaming, C07).
-/
import ZV.Proofs.SameForm

namespace ZV.ZCore.Lk
open ZV.ZCore ZV.Numeric

/-- What `evalRC` gives: `none` when the fuel ran out, else a terminal form and the output. -/
abbrev Run := Option (RTerm × Host.Bytes)

section
variable (K : NRel → C → C → Prop)

/-- Values up to the code they capture: a closure over `m` in `E` is related to one over `m'` in
`E'` when `K` relates the code along some `N` through which the environments agree. -/
inductive VRel : RVal → RVal → Prop
  | unit : VRel .unit .unit
  | int (t : IntTy) (x : BitVec t.width) : VRel (.int t x) (.int t x)
  | str (s : List Char) : VRel (.str s) (.str s)
  | pair {a a' b b' : RVal} : VRel a a' → VRel b b' → VRel (.pair a b) (.pair a' b')
  | ctor (k : String) {a a' : RVal} : VRel a a' → VRel (.ctor k a) (.ctor k a')
  -- `EnvRel K N E E'` in the shape in which `VRel` may occur in its own rule (`OVRel.iff_raw`);
  -- `VRel.mkThunk` takes it as it stands
  | thunk {N : NRel} {m m' : C} {E E' : REnv} : K N m m' →
      (∀ x k, N x k → (REnv.get? E x).isSome = (REnv.get? E' k).isSome) →
      (∀ x k v v', N x k → REnv.get? E x = some v → REnv.get? E' k = some v' → VRel v v') →
      VRel (.thunk m E) (.thunk m' E')

def OVRel (o o' : Option RVal) : Prop :=
  (o = none ∧ o' = none) ∨ ∃ v v', o = some v ∧ o' = some v' ∧ VRel K v v'

/-- Names that stand for each other are both unbound or bound to related values. -/
def EnvRel (N : NRel) (E E' : REnv) : Prop := Along N (OVRel K) E E'

inductive TRel : RTerm → RTerm → Prop
  | ret {v v' : RVal} : VRel K v v' → TRel (.ret v) (.ret v')
  | lam {N : NRel} {x x' : Nat} {m m' : C} {E E' : REnv} : K (N.ext x x') m m' → EnvRel K N E E' →
      TRel (.lam x m E) (.lam x' m' E')
  | cocase {N : NRel} {arms arms' : List (String × C)} {E E' : REnv} :
      Arms₂ (K N) arms arms' → EnvRel K N E E' → TRel (.cocase arms E) (.cocase arms' E')
  | exit (code : Int) : TRel (.exit code) (.exit code)
  | trap : TRel .trap .trap
  | wrong : TRel .wrong .wrong

end

section
variable {K : NRel → C → C → Prop}

theorem EnvRel.nil {N : NRel} : EnvRel K N [] [] := fun _ _ _ => .inl ⟨rfl, rfl⟩

theorem EnvRel.cons {N : NRel} {E E' : REnv} (h : EnvRel K N E E') (x x' : Nat) {v v' : RVal}
    (hv : VRel K v v') : EnvRel K (N.ext x x') ((x, v) :: E) ((x', v') :: E') :=
  Along.cons h x x' (.inr ⟨v, v', rfl, rfl, hv⟩)

theorem OVRel.iff_raw {o o' : Option RVal} :
    OVRel K o o' ↔ o.isSome = o'.isSome ∧ ∀ v v', o = some v → o' = some v' → VRel K v v' := by
  constructor
  · rintro (⟨rfl, rfl⟩ | ⟨w, w', rfl, rfl, hw⟩)
    · exact ⟨rfl, fun _ _ h => nomatch h⟩
    · exact ⟨rfl, fun _ _ h h' => by cases h; cases h'; exact hw⟩
  · rintro ⟨h1, h2⟩
    cases o <;> cases o'
    · exact .inl ⟨rfl, rfl⟩
    · cases h1
    · cases h1
    · exact .inr ⟨_, _, rfl, rfl, h2 _ _ rfl rfl⟩

theorem VRel.mkThunk {N : NRel} {m m' : C} {E E' : REnv} (hm : K N m m') (he : EnvRel K N E E') :
    VRel K (.thunk m E) (.thunk m' E') :=
  .thunk hm (fun x k hN => (OVRel.iff_raw.1 (he x k hN)).1)
    fun x k v v' hN => (OVRel.iff_raw.1 (he x k hN)).2 v v'

theorem evalRV_rel {N : NRel} {E E' : REnv} (he : EnvRel K N E E') {v v' : V} (h : VCorr K N v v') :
    OVRel K (evalRV E v) (evalRV E' v') := by
  induction h with
  | var hN => exact he _ _ hN
  | unit => exact .inr ⟨_, _, rfl, rfl, .unit⟩
  | int t x => exact .inr ⟨_, _, rfl, rfl, .int t x⟩
  | str s => exact .inr ⟨_, _, rfl, rfl, .str s⟩
  | pair _ _ iha ihb =>
    simp only [evalRV]
    rcases iha with ⟨h1, h2⟩ | ⟨a, a', h1, h2, hr⟩
    · rw [h1, h2]; exact .inl ⟨rfl, rfl⟩
    · rcases ihb with ⟨g1, g2⟩ | ⟨b, b', g1, g2, gr⟩
      · rw [h1, h2, g1, g2]; exact .inl ⟨rfl, rfl⟩
      · rw [h1, h2, g1, g2]; exact .inr ⟨_, _, rfl, rfl, .pair hr gr⟩
  | ctor d k _ ih =>
    simp only [evalRV]
    rcases ih with ⟨h1, h2⟩ | ⟨a, a', h1, h2, hr⟩
    · rw [h1, h2]; exact .inl ⟨rfl, rfl⟩
    · rw [h1, h2]; exact .inr ⟨_, _, rfl, rfl, .ctor k hr⟩
  | thunk b hm => exact .inr ⟨_, _, rfl, rfl, .mkThunk hm he⟩

end

/-- How `do`, application and destructor continue after running their head: fuel exhaustion, traps
and exits pass through; any other terminal form goes to `k`. -/
def thenK (r : Run) (k : RTerm → Host.Bytes → Run) : Run :=
  match r with
  | none => none
  | some (.trap, o) => some (.trap, o)
  | some (.exit c, o) => some (.exit c, o)
  | some (t, o) => k t o

theorem evalRC_bind (n : Nat) (E : REnv) (x : Nat) (a : VTy) (m n2 : C) (out : Host.Bytes) :
    evalRC (n + 1) E (.bind x a m n2) out
      = thenK (evalRC n E m out) fun t o =>
          match t with
          | .ret v => evalRC n ((x, v) :: E) n2 o
          | _ => some (.wrong, o) := by
  simp only [evalRC]
  cases evalRC n E m out with
  | none => rfl
  | some p => obtain ⟨t, o⟩ := p; cases t <;> rfl

theorem evalRC_app (n : Nat) (E : REnv) (m : C) (v : V) (a : RVal) (out : Host.Bytes)
    (hv : evalRV E v = some a) :
    evalRC (n + 1) E (.app m v) out
      = thenK (evalRC n E m out) fun t o =>
          match t with
          | .lam x body E1 => evalRC n ((x, a) :: E1) body o
          | _ => some (.wrong, o) := by
  simp only [evalRC, hv]
  cases evalRC n E m out with
  | none => rfl
  | some p => obtain ⟨t, o⟩ := p; cases t <;> rfl

theorem evalRC_app_none (n : Nat) (E : REnv) (m : C) (v : V) (out : Host.Bytes)
    (hv : evalRV E v = none) : evalRC (n + 1) E (.app m v) out = some (.wrong, out) := by
  simp only [evalRC, hv]

theorem evalRC_dtor (n : Nat) (E : REnv) (m : C) (k : String) (out : Host.Bytes) :
    evalRC (n + 1) E (.dtor m k) out
      = thenK (evalRC n E m out) fun t o =>
          match t with
          | .cocase arms E1 =>
            match arms.find? (·.1 == k) with
            | some (_, body) => evalRC n E1 body o
            | none => some (.wrong, o)
          | _ => some (.wrong, o) := by
  simp only [evalRC]
  cases evalRC n E m out with
  | none => rfl
  | some p => obtain ⟨t, o⟩ := p; cases t <;> rfl

theorem evalRC_fn (n : Nat) (E : REnv) (x : Nat) (a : VTy) (m : C) (out : Host.Bytes) :
    evalRC (n + 1) E (.fn x a m) out = some (.lam x m E, out) := by
  simp only [evalRC]

theorem evalRC_force (n : Nat) (E E1 : REnv) (v : V) (m : C) (out : Host.Bytes)
    (hv : evalRV E v = some (.thunk m E1)) :
    evalRC (n + 1) E (.force v) out = evalRC n E1 m out := by
  simp only [evalRC, hv]

theorem evalRC_ret (n : Nat) (E : REnv) (v : V) (a : RVal) (out : Host.Bytes)
    (hv : evalRV E v = some a) : evalRC (n + 1) E (.ret v) out = some (.ret a, out) := by
  simp only [evalRC, hv]

section
variable (K : NRel → C → C → Prop)

/-- What the constructor-by-constructor argument asks of a way `D` of comparing two results: it
holds of finished runs with related terminal forms and equal output, and only of those, except that
it may claim nothing at all once the side it follows has run out of fuel. -/
structure Good (D : Run → Run → Prop) : Prop where
  ok : ∀ {t t' : RTerm} {o : Host.Bytes}, TRel K t t' → D (some (t, o)) (some (t', o))
  inv : ∀ {r r' : Run}, D r r' →
    (r = none ∧ ∀ x, D none x) ∨ (r' = none ∧ ∀ x, D x none) ∨
    ∃ t t' o, r = some (t, o) ∧ r' = some (t', o) ∧ TRel K t t'

def Fwd (r r' : Run) : Prop := ∀ t o, r = some (t, o) → ∃ t', r' = some (t', o) ∧ TRel K t t'

def Bwd (r r' : Run) : Prop := ∀ t' o, r' = some (t', o) → ∃ t, r = some (t, o) ∧ TRel K t t'

def SimAt (D : Run → Run → Prop) (n k : Nat) : Prop :=
  ∀ {N : NRel} {E E' : REnv} {m m' : C} {out : Host.Bytes}, K N m m' → EnvRel K N E E' →
    D (evalRC n E m out) (evalRC k E' m' out)

end

section
variable {K : NRel → C → C → Prop}

theorem Fwd.none_left (x : Run) : Fwd K none x := fun _ _ h => by cases h
theorem Bwd.none_right (x : Run) : Bwd K x none := fun _ _ h => by cases h

theorem goodFwd : Good K (Fwd K) where
  ok := fun ht _ _ h => by cases h; exact ⟨_, rfl, ht⟩
  inv := by
    intro r r' h
    cases r with
    | none => exact .inl ⟨rfl, Fwd.none_left⟩
    | some p =>
      obtain ⟨t, o⟩ := p
      obtain ⟨t', rfl, ht⟩ := h t o rfl
      exact .inr (.inr ⟨t, t', o, rfl, rfl, ht⟩)

theorem goodBwd : Good K (Bwd K) where
  ok := fun ht _ _ h => by cases h; exact ⟨_, rfl, ht⟩
  inv := by
    intro r r' h
    cases r' with
    | none => exact .inr (.inl ⟨rfl, Bwd.none_right⟩)
    | some p =>
      obtain ⟨t', o⟩ := p
      obtain ⟨t, rfl, ht⟩ := h t' o rfl
      exact .inr (.inr ⟨t, t', o, rfl, rfl, ht⟩)

theorem observe {r r' : Run} (hf : Fwd K r r') (hb : Bwd K r r') (out : Host.Bytes) :
    (∀ code, r = some (.exit code, out) ↔ r' = some (.exit code, out)) ∧
    (r = some (.trap, out) ↔ r' = some (.trap, out)) ∧
    (r = some (.wrong, out) ↔ r' = some (.wrong, out)) := by
  cases r with
  | none =>
    cases r' with
    | none => simp
    | some p => obtain ⟨_, e, _⟩ := hb p.1 p.2 rfl; cases e
  | some p =>
    obtain ⟨t, o⟩ := p
    obtain ⟨t', rfl, ht⟩ := hf t o rfl
    cases ht <;> simp

variable {D : Run → Run → Prop} (hD : Good K D)
include hD

theorem Good.thenK {r r' : Run} {k k' : RTerm → Host.Bytes → Run} (h : D r r')
    (hk : ∀ t t' o, TRel K t t' → D (k t o) (k' t' o)) : D (thenK r k) (thenK r' k') := by
  rcases hD.inv h with ⟨rfl, hn⟩ | ⟨rfl, hn⟩ | ⟨t, t', o, rfl, rfl, ht⟩
  · exact hn _
  · exact hn _
  · have hk' := hk t t' o ht
    cases ht with
    | exit code => exact hD.ok (.exit code)
    | trap => exact hD.ok .trap
    | _ => exact hk'

/-- **One step in lockstep.** If the runs of `K`-related code with fuel `n` and `k` are comparable,
so are the runs of two terms of the same form with one more unit of fuel each. -/
theorem step {n k : Nat} (ih : SimAt K D n k) {N : NRel} {E E' : REnv} {m m' : C} {out : Host.Bytes}
    (h : Layer K N m m') (he : EnvRel K N E E') :
    D (evalRC (n + 1) E m out) (evalRC (k + 1) E' m' out) := by
  cases h with
  | ret hv =>
    rcases evalRV_rel he hv with ⟨h1, h2⟩ | ⟨a, a', h1, h2, hr⟩
    · simp only [evalRC, h1, h2]; exact hD.ok .wrong
    · simp only [evalRC, h1, h2]; exact hD.ok (.ret hr)
  | bind hm hk =>
    rw [evalRC_bind, evalRC_bind]
    refine hD.thenK (ih hm he) fun t t' o ht => ?_
    cases ht with
    | ret hv => exact ih hk (he.cons _ _ hv)
    | _ => exact hD.ok .wrong
  | clet hv hm =>
    rcases evalRV_rel he hv with ⟨h1, h2⟩ | ⟨a, a', h1, h2, hr⟩
    · simp only [evalRC, h1, h2]; exact hD.ok .wrong
    · simp only [evalRC, h1, h2]; exact ih hm (he.cons _ _ hr)
  | letPair hv hm =>
    rcases evalRV_rel he hv with ⟨h1, h2⟩ | ⟨a, a', h1, h2, hr⟩
    · simp only [evalRC, h1, h2]; exact hD.ok .wrong
    · simp only [evalRC, h1, h2]
      cases hr with
      | pair hp hq => exact ih hm ((he.cons _ _ hp).cons _ _ hq)
      | _ => exact hD.ok .wrong
  | fn hm =>
    simp only [evalRC]
    exact hD.ok (.lam hm he)
  | app hm hv =>
    rcases evalRV_rel he hv with ⟨h1, h2⟩ | ⟨a, a', h1, h2, hr⟩
    · rw [evalRC_app_none _ _ _ _ _ h1, evalRC_app_none _ _ _ _ _ h2]
      exact hD.ok .wrong
    · rw [evalRC_app _ _ _ _ _ _ h1, evalRC_app _ _ _ _ _ _ h2]
      refine hD.thenK (ih hm he) fun t t' o ht => ?_
      cases ht with
      | lam hb he1 => exact ih hb (he1.cons _ _ hr)
      | _ => exact hD.ok .wrong
  | force hv =>
    rcases evalRV_rel he hv with ⟨h1, h2⟩ | ⟨a, a', h1, h2, hr⟩
    · simp only [evalRC, h1, h2]; exact hD.ok .wrong
    · simp only [evalRC, h1, h2]
      cases hr with
      | thunk hm r1 r2 =>
        exact ih hm fun x k hN => OVRel.iff_raw.2 ⟨r1 x k hN, (r2 x k · · hN)⟩
      | _ => exact hD.ok .wrong
  | fix hw hm =>
    simp only [evalRC]
    exact ih hm (he.cons _ _ (.mkThunk hw he))
  | case hv ha =>
    rcases evalRV_rel he hv with ⟨h1, h2⟩ | ⟨a, a', h1, h2, hr⟩
    · simp only [evalRC, h1, h2]; exact hD.ok .wrong
    · simp only [evalRC, h1, h2]
      cases hr with
      | ctor c hp =>
        rcases ha.find c with ⟨f1, f2⟩ | ⟨_, ⟨x, b⟩, ⟨x', b'⟩, f1, f2, hb⟩
        · simp only [f1, f2]; exact hD.ok .wrong
        · simp only [f1, f2]
          exact ih hb (he.cons _ _ hp)
      | _ => exact hD.ok .wrong
  | comatch ha =>
    simp only [evalRC]
    exact hD.ok (.cocase ha he)
  | @dtor _ _ c hm =>
    rw [evalRC_dtor, evalRC_dtor]
    refine hD.thenK (ih hm he) fun t t' o ht => ?_
    cases ht with
    | cocase ha he1 =>
      rcases ha.find c with ⟨f1, f2⟩ | ⟨_, b, b', f1, f2, hb⟩
      · simp only [f1, f2]; exact hD.ok .wrong
      · simp only [f1, f2]
        exact ih hb he1
    | _ => exact hD.ok .wrong
  | arith t op hp hq =>
    rcases evalRV_rel he hp with ⟨h1, h2⟩ | ⟨a, a', h1, h2, hr⟩
    · simp only [evalRC, h1, h2]; exact hD.ok .wrong
    rcases evalRV_rel he hq with ⟨g1, g2⟩ | ⟨b, b', g1, g2, gr⟩
    · simp only [evalRC, h1, h2, g1, g2]
      cases hr <;> exact hD.ok .wrong
    simp only [evalRC, h1, h2, g1, g2]
    cases hr with
    | int t1 x =>
      cases gr with
      | int t2 y =>
        by_cases e1 : t1 = t
        · by_cases e2 : t2 = t
          · subst e1; subst e2
            simp only [dite_true]
            generalize Numeric.arith _ _ x y = r
            cases r with
            | ok r => exact hD.ok (.ret (.int _ _))
            | trap => exact hD.ok .trap
          · simp only [e1, e2, dite_true, dite_false]; exact hD.ok .wrong
        · simp only [e1, dite_false]; exact hD.ok .wrong
      | _ => exact hD.ok .wrong
    | _ => exact hD.ok .wrong
  | cmp t op res hp hq hy hn =>
    rcases evalRV_rel he hp with ⟨h1, h2⟩ | ⟨a, a', h1, h2, hr⟩
    · simp only [evalRC, h1, h2]; exact hD.ok .wrong
    rcases evalRV_rel he hq with ⟨g1, g2⟩ | ⟨b, b', g1, g2, gr⟩
    · simp only [evalRC, h1, h2, g1, g2]
      cases hr <;> exact hD.ok .wrong
    simp only [evalRC, h1, h2, g1, g2]
    cases hr with
    | int t1 x =>
      cases gr with
      | int t2 y =>
        by_cases e1 : t1 = t
        · by_cases e2 : t2 = t
          · subst e1; subst e2
            simp only [dite_true]
            generalize Numeric.cmp _ _ x y = r
            cases r with
            | true => exact ih hy he
            | false => exact ih hn he
          · simp only [e1, e2, dite_true, dite_false]; exact hD.ok .wrong
        · simp only [e1, dite_false]; exact hD.ok .wrong
      | _ => exact hD.ok .wrong
    | _ => exact hD.ok .wrong
  | toStr t hp =>
    rcases evalRV_rel he hp with ⟨h1, h2⟩ | ⟨a, a', h1, h2, hr⟩
    · simp only [evalRC, h1, h2]; exact hD.ok .wrong
    simp only [evalRC, h1, h2]
    cases hr with
    | int t1 x =>
      by_cases e1 : t1 = t
      · subst e1
        simp only [dite_true]
        exact hD.ok (.ret (.str _))
      · simp only [e1, dite_false]; exact hD.ok .wrong
    | _ => exact hD.ok .wrong
  | strAppend hp hq =>
    rcases evalRV_rel he hp with ⟨h1, h2⟩ | ⟨a, a', h1, h2, hr⟩
    · simp only [evalRC, h1, h2]; exact hD.ok .wrong
    rcases evalRV_rel he hq with ⟨g1, g2⟩ | ⟨b, b', g1, g2, gr⟩
    · simp only [evalRC, h1, h2, g1, g2]
      cases hr <;> exact hD.ok .wrong
    simp only [evalRC, h1, h2, g1, g2]
    cases hr with
    | str s1 =>
      cases gr with
      | str s2 => exact hD.ok (.ret (.str _))
      | _ => exact hD.ok .wrong
    | _ => exact hD.ok .wrong
  | writeLine hp hk =>
    rcases evalRV_rel he hp with ⟨h1, h2⟩ | ⟨a, a', h1, h2, hr⟩
    · simp only [evalRC, h1, h2]; exact hD.ok .wrong
    simp only [evalRC, h1, h2]
    cases hr with
    | str s1 => exact ih hk he
    | _ => exact hD.ok .wrong
  | exit hp =>
    rcases evalRV_rel he hp with ⟨h1, h2⟩ | ⟨a, a', h1, h2, hr⟩
    · simp only [evalRC, h1, h2]; exact hD.ok .wrong
    simp only [evalRC, h1, h2]
    cases hr with
    | int t1 x =>
      cases t1 with
      | i64 => exact hD.ok (.exit _)
      | _ => exact hD.ok .wrong
    | _ => exact hD.ok .wrong

/-- **Lockstep.** Code related by a correspondence that keeps the form of every term runs to
comparable results at every fuel. -/
theorem lockstep (h0 : D none none) (hK : KeepsForm K) :
    ∀ n, SimAt K D n n
  | 0 => fun _ _ => h0
  | n + 1 => fun h he => step hD (lockstep h0 hK n) (hK h) he

end

end ZV.ZCore.Lk
