/- Proofs of the C14 statements (`fmt --check` against `fmt`, exit status). -/
import ZV.Props.C14Statements

namespace ZV.FmtCli
open ZV.Props.C14.Statement

theorem check_iff_write_pf : check_iff_write := by
  intro render file
  unfold checkPath formatPath
  cases h : render file with
  | none => simp
  | some formatted => by_cases hf : formatted = file <;> simp [hf]

theorem unparseable_untouched_pf : unparseable_untouched := by
  intro render file h
  simp [formatPath, checkPath, h]

theorem written_is_rendered_pf : written_is_rendered := by
  intro render file out h
  unfold formatPath
  rw [h]
  by_cases hf : out = file <;> simp [hf]

theorem format_then_check_pf : format_then_check := by
  intro render file hidem hsome
  cases h : render file with
  | none => simp [formatPath, h] at hsome
  | some formatted =>
    have h2 := hidem file formatted h
    by_cases hf : formatted = file
    · subst hf
      simp [formatPath, checkPath, h]
    · simp [formatPath, checkPath, h, hf, h2]

/-- Over files that all parse, in either mode and for any accumulated flag: the exit status is 1
exactly when `--check` is on and the flag or some file says changed, and every file is what its
mode leaves. -/
theorem formatSources_spec (render : String → Option String) (check : Bool) (files : List String)
    (hp : ∀ f ∈ files, (render f).isSome) (changed : Bool) :
    formatSources render check files changed =
      (some (if (check && (changed || files.any fun f => (checkPath render f).1 == some .changed))
        then 1 else 0),
       files.map fun f => (if check then checkPath render f else formatPath render f).2) := by
  induction files generalizing changed with
  | nil => simp [formatSources]
  | cons f rest ih =>
    obtain ⟨hf, hrest⟩ := List.forall_mem_cons.1 hp
    obtain ⟨out, hout⟩ := Option.isSome_iff_exists.mp hf
    unfold formatSources
    cases check <;> by_cases ho : out = f <;> simp [checkPath, formatPath, hout, ho, ih hrest]

theorem exit_status_pf : exit_status := by
  intro render files hp
  simp only [formatSources_spec render _ files hp]
  refine ⟨by simp, ?_, by simp⟩
  exact (List.map_congr_left fun f _ => (check_iff_write_pf render f).2.1).trans (List.map_id' _)

end ZV.FmtCli

#print axioms ZV.FmtCli.check_iff_write_pf
#print axioms ZV.FmtCli.unparseable_untouched_pf
#print axioms ZV.FmtCli.written_is_rendered_pf
#print axioms ZV.FmtCli.format_then_check_pf
#print axioms ZV.FmtCli.exit_status_pf
