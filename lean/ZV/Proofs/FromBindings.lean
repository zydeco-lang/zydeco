/-
C08 — `BindingContext::from_bindings` (`fromBindings` of `ZV/Model/Graph.lean`) succeeds, and what it builds.

Of the drained `groups` only `IsDepsFirst deps groups` is used. The group fold then cannot fail and makes
node `i` the `i`-th group in source order; the table `nodeFor` sends a binding to the index of its group
(`NodeOf`); the node-level graph is the quotient of the binding graph by `NodeOf`, whose edges go down in
index, so that its components are singletons and a node has the release level (`Lvl`) of its members.
Last, a node is described without reference to the run (`Canon`, `NodeBefore`), and the nodes built are
exactly those that fit the description; the determinism of the context order rests on that.
-/
import ZV.Proofs.SccDrain

namespace ZV.Graph

/-- `Lvl G k u`: the component of `u` is released in one of the first `k` rounds when every
round releases all components on offer. -/
def Lvl (G : AMap) : Nat → Nat → Prop
  | 0, _ => False
  | k + 1, u => u ∈ allNodes G ∧
      ∀ u' v, SameScc G u u' → Edge G u' v → ¬ SameScc G u' v → Lvl G k v

theorem Lvl.mono {G : AMap} {k : Nat} {u : Nat} (h : Lvl G k u) : Lvl G (k + 1) u := by
  induction k generalizing u with
  | zero => exact h.elim
  | succ k ih =>
    obtain ⟨h1, h2⟩ := h
    exact ⟨h1, fun u' v hs he hn => ih (h2 u' v hs he hn)⟩

theorem Lvl.mono_le {G : AMap} {k k' : Nat} {u : Nat} (hk : k ≤ k') (h : Lvl G k u) : Lvl G k' u := by
  induction hk with
  | refl => exact h
  | step _ ih => exact ih.mono

/-- Released exactly in round `k`. -/
def AtLvl (G : AMap) (k u : Nat) : Prop := Lvl G (k + 1) u ∧ ¬ Lvl G k u

theorem Lvl.exists_at {G : AMap} {k : Nat} {u : Nat} (h : Lvl G k u) : ∃ j, j < k ∧ AtLvl G j u := by
  induction k with
  | zero => exact h.elim
  | succ k ih =>
    by_cases hk : Lvl G k u
    · obtain ⟨j, hj, hat⟩ := ih hk
      exact ⟨j, Nat.lt_succ_of_lt hj, hat⟩
    · exact ⟨k, Nat.lt_succ_self k, h, hk⟩

theorem AtLvl.unique {G : AMap} {k k' u : Nat} (h : AtLvl G k u) (h' : AtLvl G k' u) : k = k' := by
  rcases Nat.lt_trichotomy k k' with hlt | heq | hgt
  · exact absurd (Lvl.mono_le hlt h.1) h'.2
  · exact heq
  · exact absurd (Lvl.mono_le hgt h'.1) h.2

theorem Lvl.of_sameScc {G : AMap} {k u w : Nat} (hs : SameScc G u w) (h : Lvl G k u) : Lvl G k w := by
  cases k with
  | zero => exact h.elim
  | succ k =>
    obtain ⟨h1, h2⟩ := h
    exact ⟨hs.mem_allNodes h1, fun u' v hs' he hn => h2 u' v (hs.trans hs') he hn⟩

theorem AtLvl.of_sameScc {G : AMap} {k u w : Nat} (hs : SameScc G u w) (h : AtLvl G k u) :
    AtLvl G k w :=
  ⟨h.1.of_sameScc hs, fun hw => h.2 (hw.of_sameScc hs.symm)⟩

theorem Lvl.mem_allNodes {G : AMap} {k u : Nat} (h : Lvl G k u) : u ∈ allNodes G := by
  cases k with
  | zero => exact h.elim
  | succ k => exact h.1

theorem Lvl.succ_iff {G : AMap} {k u : Nat} : Lvl G (k + 1) u ↔ (AtLvl G k u ∨ Lvl G k u) :=
  ⟨fun h => (Classical.em (Lvl G k u)).elim Or.inr fun hl => Or.inl ⟨h, hl⟩, fun h => h.elim (·.1) (·.mono)⟩

theorem AtLvl.lt_of_edge {G : AMap} {k k' u v : Nat} (hu : AtLvl G k u) (hv : AtLvl G k' v)
    (he : Edge G u v) (hn : ¬ SameScc G u v) : k' < k :=
  Nat.lt_of_not_le fun hle => hv.2 ((hu.1.2 u v (SameScc.refl G u) he hn).mono_le hle)

def bindOrder (bindings : List (Nat × Nat)) (id : Nat) : Nat := (lookup bindings id).getD 0

theorem bindOrder_inj {bindings : List (Nat × Nat)} (ho : (bindings.map (·.2)).Nodup) {u v : Nat}
    (hu : u ∈ bindings.map (·.1)) (hv : v ∈ bindings.map (·.1))
    (h : bindOrder bindings u = bindOrder bindings v) : u = v := by
  obtain ⟨ou, hou⟩ := Option.isSome_iff_exists.mp (lookup_isSome.mpr hu)
  obtain ⟨ov, hov⟩ := Option.isSome_iff_exists.mp (lookup_isSome.mpr hv)
  rw [bindOrder, bindOrder, hou, hov, Option.getD_some, Option.getD_some] at h
  exact congrArg Prod.fst (inj_on_of_nodup_map ho (lookup_mem hou) (lookup_mem hov) h)

/-- The `recursive` flag computed from the sorted member list. -/
def recOf (deps : AMap) (ids : List Nat) : Bool :=
  decide (ids.length > 1) ||
    (match ids.head? with
     | some id => (deps.query id).contains id
     | none => false)

theorem recOf_iff (deps : AMap) (ids : List Nat) :
    recOf deps ids = true ↔ (ids.length > 1 ∨ ∃ u ∈ ids, Edge deps u u) := by
  unfold recOf Edge
  match ids with
  | [] => simp
  | [a] => simp
  | a :: b :: l => simp

def mkNode (bindings : List (Nat × Nat)) (deps : AMap) (group : IdSet) : Node :=
  { members := sortByKey (bindOrder bindings) group,
    recursive := recOf deps (sortByKey (bindOrder bindings) group) }

theorem mem_mkNode {bindings : List (Nat × Nat)} {deps : AMap} {g : IdSet} {u : Nat} :
    u ∈ (mkNode bindings deps g).members ↔ u ∈ g :=
  (sortByKey_perm _ g).mem_iff

/-- The step of the group fold, with `bindOrder` and `mkNode` for what the model writes out. -/
def groupStepM (bindings : List (Nat × Nat)) (deps : AMap)
    (acc : List Node × List (Nat × Nat) × List (Nat × Nat)) (group : IdSet) :
    Except String (List Node × List (Nat × Nat) × List (Nat × Nat)) := do
  let (nodes, nodeFor, remaining) := acc
  let ids := sortByKey (bindOrder bindings) group
  if ids.any fun id => !(remaining.any (·.1 == id)) then
    throw "each binding belongs to exactly one context component"
  if ids.isEmpty then throw "an SCC cannot be empty"
  pure (nodes ++ [mkNode bindings deps group], nodeFor ++ ids.map (·, nodes.length),
        remaining.filter fun p => !ids.contains p.1)

def nodeDepsStepM (σ : Sched) (deps : AMap) (nodeFor : List (Nat × Nat)) (m : AMap) (binding : Nat) :
    Except String AMap := do
  let some node := lookup nodeFor binding | throw "node_for_binding[&binding]"
  let ds ← (σ (deps.query binding)).mapM fun d =>
    match lookup nodeFor d with
    | some n => pure n
    | none => throw "node_for_binding[&dependency]"
  pure (m.add node (ds.filter (· != node)))

def nodeDeps0 (n : Nat) : AMap := (List.range n).foldl (fun m n => m.add n []) []

/-- `fromBindings` with its anonymous functions named (`bindOrder`, `recOf`, `groupStepM`, `nodeDepsStepM`,
`nodeDeps0`). -/
theorem fromBindings_unfold (σ : Sched) (bindings : List (Nat × Nat)) (deps : AMap) :
    fromBindings σ bindings deps = (do
      let components ← kosaraju σ deps
      let groups ← drainGroups σ (2 * (allNodes deps).length + 2) components [] []
      let (nodes, nodeFor, remaining) ← groups.foldlM (groupStepM bindings deps) ([], [], bindings)
      if !remaining.isEmpty then throw "all context bindings must occur in the dependency graph"
      let nodeDeps ← (σ deps.keys).foldlM (nodeDepsStepM σ deps nodeFor) (nodeDeps0 nodes.length)
      let graph ← kosaraju σ nodeDeps
      pure { nodes, graph }) :=
  rfl

def NodeOf (groups : List IdSet) (u i : Nat) : Prop := ∃ g, groups[i]? = some g ∧ u ∈ g

theorem NodeOf.unique {groups : List IdSet} (hnd : (groups.flatMap id).Nodup) {u i j : Nat}
    (hi : NodeOf groups u i) (hj : NodeOf groups u j) : i = j := by
  obtain ⟨g, hg, hug⟩ := hi
  obtain ⟨g', hg', hug'⟩ := hj
  obtain ⟨hi, rfl⟩ := List.getElem?_eq_some_iff.mp hg
  obtain ⟨hj, rfl⟩ := List.getElem?_eq_some_iff.mp hg'
  have hdisj := List.pairwise_iff_getElem.mp (List.pairwise_flatMap.mp hnd).2
  rcases Nat.lt_trichotomy i j with hlt | heq | hgt
  · exact absurd rfl (hdisj i j hi hj hlt u hug u hug')
  · exact heq
  · exact absurd rfl (hdisj j i hj hi hgt u hug' u hug)

theorem NodeOf.lt {groups : List IdSet} {u i : Nat} (h : NodeOf groups u i) : i < groups.length := by
  obtain ⟨g, hg, _⟩ := h
  exact (List.getElem?_eq_some_iff.mp hg).1

theorem groupStepM_ok {bindings : List (Nat × Nat)} {deps : AMap}
    {nodes : List Node} {nodeFor remaining : List (Nat × Nat)} {group : IdSet}
    (hne : group ≠ []) (hall : ∀ u ∈ group, u ∈ remaining.map (·.1)) :
    groupStepM bindings deps (nodes, nodeFor, remaining) group = .ok
      (nodes ++ [mkNode bindings deps group],
       nodeFor ++ (sortByKey (bindOrder bindings) group).map (·, nodes.length),
       remaining.filter fun p => !(sortByKey (bindOrder bindings) group).contains p.1) := by
  have hperm := sortByKey_perm (bindOrder bindings) group
  have h1 : ((sortByKey (bindOrder bindings) group).any fun id => !(remaining.any (·.1 == id))) = false := by
    rw [List.any_eq_false]
    intro x hx
    obtain ⟨p, hp, hpx⟩ := List.mem_map.mp (hall x (hperm.mem_iff.mp hx))
    rw [Bool.not_eq_true', Bool.not_eq_false, List.any_eq_true]
    exact ⟨p, hp, beq_iff_eq.mpr hpx⟩
  have h2 : (sortByKey (bindOrder bindings) group).isEmpty = false :=
    hperm.isEmpty_eq.trans (List.isEmpty_eq_false_iff.mpr hne)
  simp only [groupStepM, h1, h2, Bool.false_eq_true, if_false]
  rfl

/-- The table `nodeFor` after the group fold, the first node id being `n`. -/
def nodeForOf (bindings : List (Nat × Nat)) (n : Nat) (groups : List IdSet) : List (Nat × Nat) :=
  (groups.zipIdx n).flatMap fun gi => (sortByKey (bindOrder bindings) gi.1).map (·, gi.2)

/-- The bindings still unassigned are, throughout, those of the groups still to come; hence none is left. -/
theorem groupFold_ok (bindings : List (Nat × Nat)) (deps : AMap) (groups : List IdSet)
    (nodes : List Node) (nodeFor remaining : List (Nat × Nat))
    (hne : ∀ g ∈ groups, g ≠ []) (hnd : (groups.flatMap id).Nodup)
    (hrem : ∀ u, u ∈ remaining.map (·.1) ↔ u ∈ groups.flatMap id) :
    groups.foldlM (groupStepM bindings deps) (nodes, nodeFor, remaining) = .ok
      (nodes ++ groups.map (mkNode bindings deps),
       nodeFor ++ nodeForOf bindings nodes.length groups, []) := by
  induction groups generalizing nodes nodeFor remaining with
  | nil =>
    cases remaining with
    | cons p _ => exact absurd ((hrem p.1).mp List.mem_cons_self) List.not_mem_nil
    | nil =>
      rw [List.map_nil, List.append_nil, show nodeForOf bindings nodes.length [] = [] from rfl, List.append_nil]
      rfl
  | cons g gs ih =>
    have hperm := sortByKey_perm (bindOrder bindings) g
    rw [List.flatMap_cons, id, List.nodup_append] at hnd
    simp only [List.flatMap_cons, id, List.mem_append] at hrem
    rw [List.foldlM_cons, groupStepM_ok (hne g List.mem_cons_self) fun u hu => (hrem u).mpr (Or.inl hu)]
    refine (ih _ _ _ (fun g' hg' => hne g' (List.mem_cons_of_mem _ hg')) hnd.2.1 fun u => ?_).trans ?_
    · simp only [List.mem_map, List.mem_filter, hperm.contains_eq, List.contains_eq_mem,
        Bool.not_eq_true', decide_eq_false_iff_not]
      constructor
      · rintro ⟨p, ⟨hp, hpg⟩, rfl⟩
        exact ((hrem p.1).mp (List.mem_map.mpr ⟨p, hp, rfl⟩)).resolve_left hpg
      · intro hu
        obtain ⟨p, hp, rfl⟩ := List.mem_map.mp ((hrem u).mpr (Or.inr hu))
        exact ⟨p, ⟨hp, fun hpg => hnd.2.2 _ hpg _ hu rfl⟩, rfl⟩
    · rw [List.length_append, List.append_assoc, List.append_assoc]
      rfl

theorem mem_nodeForOf (bindings : List (Nat × Nat)) (groups : List IdSet) (u i : Nat) :
    (u, i) ∈ nodeForOf bindings 0 groups ↔ NodeOf groups u i := by
  simp only [nodeForOf, List.mem_flatMap, List.mem_map, List.mem_zipIdx_iff_getElem?, Prod.mk.injEq]
  constructor
  · rintro ⟨⟨g, j⟩, hg, v, hv, rfl, rfl⟩
    exact ⟨g, hg, (sortByKey_perm _ _).mem_iff.mp hv⟩
  · rintro ⟨g, hg, hu⟩
    exact ⟨(g, i), hg, u, (sortByKey_perm _ _).mem_iff.mpr hu, rfl, rfl⟩

theorem lookup_nodeForOf (bindings : List (Nat × Nat)) {groups : List IdSet}
    (hnd : (groups.flatMap id).Nodup) {u i : Nat} (h : NodeOf groups u i) :
    lookup (nodeForOf bindings 0 groups) u = some i := by
  have hmem := (mem_nodeForOf bindings groups u i).mpr h
  obtain ⟨j, hj⟩ := Option.isSome_iff_exists.mp (lookup_isSome.mpr (List.mem_map.mpr ⟨_, hmem, rfl⟩))
  rw [hj, NodeOf.unique hnd ((mem_nodeForOf ..).mp (lookup_mem hj)) h]

def nfOf (nodeFor : List (Nat × Nat)) (d : Nat) : Nat := (lookup nodeFor d).getD 0

def nodeDepsOf (σ : Sched) (deps : AMap) (nf : Nat → Nat) (n : Nat) : AMap :=
  AMap.addAll [] ((List.range n).map (·, []) ++ (σ deps.keys).map fun u =>
    (nf u, ((σ (deps.query u)).map nf).filter (· != nf u)))

theorem nodeDepsFold_ok {σ : Sched} (hσ : σ.Valid) {deps : AMap} {nodeFor : List (Nat × Nat)}
    {nf : Nat → Nat} (n : Nat) (hlab : ∀ u, u ∈ allNodes deps → lookup nodeFor u = some (nf u)) :
    (σ deps.keys).foldlM (nodeDepsStepM σ deps nodeFor) (nodeDeps0 n) = .ok (nodeDepsOf σ deps nf n) := by
  rw [nodeDepsOf, AMap.addAll_append]
  unfold AMap.addAll
  rw [List.foldl_map, List.foldl_map]
  refine foldlM_eq_ok' fun acc u hu => ?_
  unfold nodeDepsStepM
  simp only [hlab u (mem_allNodes_of_mem_keys (hσ.mem_iff.mp hu))]
  rw [mapM_eq_ok nf]
  · rfl
  · intro d hd
    rw [hlab d (Edge.mem_allNodes_right (u := u) (hσ.mem_iff.mp hd))]
    rfl

theorem nodeDepsOf_keys_nodup (σ : Sched) (deps : AMap) (nf : Nat → Nat) (n : Nat) :
    (nodeDepsOf σ deps nf n).keys.Nodup := (AMap.wf_addAll wf_nil _).1

theorem nodeDepsOf_query {σ : Sched} (hσ : σ.Valid) (deps : AMap) (nf : Nat → Nat) (n x y : Nat) :
    y ∈ (nodeDepsOf σ deps nf n).query x ↔ (x ≠ y ∧ ∃ u v, Edge deps u v ∧ nf u = x ∧ nf v = y) := by
  rw [nodeDepsOf, AMap.mem_query_addAll]
  constructor
  · rintro (h | ⟨vs, h, hy⟩)
    · cases h
    · simp only [List.mem_append, List.mem_map, Prod.mk.injEq] at h
      rcases h with ⟨_, _, _, rfl⟩ | ⟨u, _, rfl, rfl⟩
      · cases hy
      · obtain ⟨hy, hne⟩ := List.mem_filter.mp hy
        obtain ⟨v, hv, rfl⟩ := List.mem_map.mp hy
        exact ⟨(bne_iff_ne.mp hne).symm, u, v, hσ.mem_iff.mp hv, rfl, rfl⟩
  · rintro ⟨hne, u, v, he, rfl, rfl⟩
    exact Or.inr ⟨_, List.mem_append_right _ (List.mem_map.mpr ⟨u, hσ.mem_iff.mpr he.mem_keys, rfl⟩),
      List.mem_filter.mpr ⟨List.mem_map.mpr ⟨v, hσ.mem_iff.mpr he, rfl⟩, bne_iff_ne.mpr hne.symm⟩⟩

theorem nodeDepsOf_isSome {σ : Sched} (hσ : σ.Valid) (deps : AMap) (nf : Nat → Nat) (n x : Nat) :
    ((nodeDepsOf σ deps nf n).get? x).isSome = true ↔ (x < n ∨ ∃ u ∈ deps.keys, nf u = x) := by
  rw [nodeDepsOf, AMap.isSome_get?_addAll]
  simp [AMap.get?_nil, hσ.mem_iff]

/-- The node-level graph built by `fromBindings`. -/
def nodeGraph (σ : Sched) (deps : AMap) (bindings : List (Nat × Nat)) (groups : List IdSet) : AMap :=
  nodeDepsOf σ deps (nfOf (nodeForOf bindings 0 groups)) groups.length

namespace IsDepsFirst

variable {deps : AMap} {groups : List IdSet}

theorem nodeOf_of_mem (h : IsDepsFirst deps groups) {u : Nat} (hu : u ∈ allNodes deps) :
    ∃ i, NodeOf groups u i := by
  obtain ⟨g, hg, hug⟩ := List.mem_flatMap.mp ((h.2.1 u).mp hu)
  obtain ⟨i, hi⟩ := List.getElem?_of_mem hg
  exact ⟨i, g, hi, hug⟩

theorem mem_allNodes (h : IsDepsFirst deps groups) {u i : Nat} (hu : NodeOf groups u i) :
    u ∈ allNodes deps := by
  obtain ⟨g, hg, hug⟩ := hu
  exact (h.2.1 u).mpr (List.mem_flatMap.mpr ⟨g, List.mem_of_getElem? hg, hug⟩)

theorem nodeOf_iff_sameScc (h : IsDepsFirst deps groups) {u v i : Nat} (hu : NodeOf groups u i) :
    NodeOf groups v i ↔ SameScc deps u v := by
  obtain ⟨g, hg, hug⟩ := hu
  rw [← (h.2.2.1 g (List.mem_of_getElem? hg)).2 u hug v]
  constructor
  · rintro ⟨g', hg', hvg⟩
    cases hg.symm.trans hg'
    exact hvg
  · exact fun hvg => ⟨g, hg, hvg⟩

theorem sameScc_iff (h : IsDepsFirst deps groups) {u v i j : Nat} (hu : NodeOf groups u i)
    (hv : NodeOf groups v j) : SameScc deps u v ↔ i = j :=
  ⟨fun hs => NodeOf.unique h.1 ((h.nodeOf_iff_sameScc hu).mpr hs) hv,
    fun e => (h.nodeOf_iff_sameScc hu).mp (e ▸ hv)⟩

/-! A graph `H` on the group indices whose edges are the images of the edges of `deps` between different
groups: its edges go down in index, hence its components are singletons; and an index has in `H` the
release level that the members of its group have in `deps`. -/

section quotient

variable {H : AMap} (h : IsDepsFirst deps groups)
  (hedge : ∀ x y, Edge H x y ↔ (x ≠ y ∧ ∃ u v, Edge deps u v ∧ NodeOf groups u x ∧ NodeOf groups v y))
include h hedge

theorem lt_of_edge_quotient {x y : Nat} (e : Edge H x y) : y < x := by
  obtain ⟨hne, u, v, he, hu, hv⟩ := (hedge x y).mp e
  have ⟨gx, hgx, hux⟩ := hu
  have ⟨gy, hgy, hvy⟩ := hv
  exact h.2.2.2 x y gx gy hgx hgy u hux v hvy he fun hs => hne ((h.sameScc_iff hu hv).mp hs)

theorem singletons_quotient {x y : Nat} (hs : SameScc H x y) : x = y := by
  have hle : ∀ {x y : Nat}, Reach H x y → y ≤ x := fun hr => by
    induction hr with
    | refl => exact Nat.le_refl _
    | step e _ ih => exact Nat.le_trans ih (Nat.le_of_lt (h.lt_of_edge_quotient hedge e))
  exact Nat.le_antisymm (hle hs.2) (hle hs.1)

theorem lvl_quotient (hnodes : ∀ x, x < groups.length → x ∈ allNodes H) (k : Nat) :
    ∀ x u, NodeOf groups u x → (Lvl H k x ↔ Lvl deps k u) := by
  induction k with
  | zero => exact fun _ _ _ => Iff.rfl
  | succ k ih =>
    intro x u hu
    constructor
    · rintro ⟨_, hsucc⟩
      refine ⟨h.mem_allNodes hu, fun u' v hs he hn => ?_⟩
      have hu' := (h.nodeOf_iff_sameScc hu).mpr hs
      obtain ⟨m, hm⟩ := h.nodeOf_of_mem he.mem_allNodes_right
      have hne : x ≠ m := fun e => hn ((h.sameScc_iff hu' hm).mpr e)
      exact (ih m v hm).mp (hsucc x m (SameScc.refl _ x) ((hedge x m).mpr ⟨hne, u', v, he, hu', hm⟩)
        fun hs' => hne (h.singletons_quotient hedge hs'))
    · rintro ⟨_, hsucc⟩
      refine ⟨hnodes x hu.lt, fun x' m hs he _ => ?_⟩
      cases h.singletons_quotient hedge hs
      obtain ⟨hne, u', v, he', hu', hm⟩ := (hedge x m).mp he
      exact (ih m v hm).mpr (hsucc u' v ((h.nodeOf_iff_sameScc hu).mp hu') he'
        fun hs' => hne ((h.sameScc_iff hu' hm).mp hs'))

end quotient

theorem nfOf_iff (h : IsDepsFirst deps groups) (bindings : List (Nat × Nat)) {u : Nat}
    (hu : u ∈ allNodes deps) (i : Nat) : nfOf (nodeForOf bindings 0 groups) u = i ↔ NodeOf groups u i := by
  obtain ⟨j, hj⟩ := h.nodeOf_of_mem hu
  rw [nfOf, lookup_nodeForOf bindings h.1 hj, Option.getD_some]
  exact ⟨fun e => e ▸ hj, NodeOf.unique h.1 hj⟩

theorem edge_nodeGraph {σ : Sched} (hσ : σ.Valid) (h : IsDepsFirst deps groups)
    (bindings : List (Nat × Nat)) (x y : Nat) :
    Edge (nodeGraph σ deps bindings groups) x y ↔
      (x ≠ y ∧ ∃ u v, Edge deps u v ∧ NodeOf groups u x ∧ NodeOf groups v y) := by
  unfold Edge nodeGraph
  rw [nodeDepsOf_query hσ]
  refine and_congr_right fun _ => exists_congr fun u => exists_congr fun v => and_congr_right fun he => ?_
  rw [h.nfOf_iff bindings he.mem_allNodes_left, h.nfOf_iff bindings he.mem_allNodes_right]

theorem mem_allNodes_nodeGraph {σ : Sched} (hσ : σ.Valid) (h : IsDepsFirst deps groups)
    (bindings : List (Nat × Nat)) (x : Nat) :
    x ∈ allNodes (nodeGraph σ deps bindings groups) ↔ x < groups.length := by
  rw [nodeGraph, mem_allNodes_iff (nodeDepsOf_keys_nodup σ deps _ _), AMap.mem_keys, nodeDepsOf_isSome hσ]
  constructor
  · rintro ((hs | ⟨u, hu, rfl⟩) | ⟨k, hk⟩)
    · exact hs
    · exact ((h.nfOf_iff bindings (mem_allNodes_of_mem_keys hu) _).mp rfl).lt
    · obtain ⟨_, _, _, _, _, hv⟩ := (h.edge_nodeGraph hσ bindings k x).mp hk
      exact hv.lt
  · exact fun hx => Or.inl (Or.inl hx)

end IsDepsFirst

theorem fromBindings_ok {σ : Sched} (hσ : σ.Valid) {deps : AMap} (hk : deps.keys.Nodup)
    (bindings : List (Nat × Nat)) (hcov : ∀ u, u ∈ allNodes deps ↔ u ∈ bindings.map (·.1)) :
    ∃ groups b' c, IsDepsFirst deps groups ∧ fromBindings σ bindings deps = .ok c ∧
      c.nodes = groups.map (mkNode bindings deps) ∧
      IsSccLabeling (nodeGraph σ deps bindings groups) b' ∧
      Scc.Inv (nodeGraph σ deps bindings groups) b' [] c.graph := by
  obtain ⟨comps, hcomps, groups, hdrain, hdf⟩ := drain_ok hσ hk
  have hfold := groupFold_ok bindings deps groups [] [] bindings (fun g hg => (hdf.2.2.1 g hg).1) hdf.1
    fun u => (hcov u).symm.trans (hdf.2.1 u)
  have hnodeDeps := nodeDepsFold_ok hσ groups.length fun u hu =>
    lookup_nodeForOf bindings hdf.1 ((hdf.nfOf_iff bindings hu _).mp rfl)
  obtain ⟨graph, b', hgraph, hlab', hinv'⟩ :=
    kosaraju_ok hσ (nodeDepsOf_keys_nodup σ deps (nfOf (nodeForOf bindings 0 groups)) groups.length)
  refine ⟨groups, b', ⟨groups.map (mkNode bindings deps), graph⟩, hdf, ?_, rfl, hlab', hinv'⟩
  rw [fromBindings_unfold]
  simp only [bind, Except.bind, hcomps, hdrain, hfold, List.nil_append, List.length_nil, List.isEmpty_nil,
    Bool.not_true, Bool.false_eq_true, if_false, List.length_map, hnodeDeps, hgraph]
  rfl

/-- The sort key of a node: the minimum source order of its members. -/
def nodeKey (bindings : List (Nat × Nat)) (nd : Node) : Nat :=
  (nd.members.map (bindOrder bindings)).foldl min
    ((nd.members.head?.map (bindOrder bindings)).getD 0)

theorem nodeOrder_eq_nodeKey (bindings : List (Nat × Nat)) {c : Ctx} {n : Nat} {nd : Node}
    (h : c.nodes[n]? = some nd) : c.nodeOrder bindings n = nodeKey bindings nd := by
  unfold Ctx.nodeOrder
  rw [h]
  rfl

theorem nodeKey_mem (bindings : List (Nat × Nat)) (nd : Node) (hne : nd.members ≠ []) :
    ∃ u ∈ nd.members, nodeKey bindings nd = bindOrder bindings u := by
  cases hm : nd.members with
  | nil => exact absurd hm hne
  | cons a l =>
    have h : ((a :: l).map (bindOrder bindings)).min? = some (nodeKey bindings nd) := by
      rw [nodeKey, hm, List.map_cons, List.min?_cons', List.foldl_cons, List.head?_cons, Option.map_some,
        Option.getD_some, Nat.min_self]
    obtain ⟨u, hu, hue⟩ := List.mem_map.mp (List.min?_mem h)
    exact ⟨u, hu, hue.symm⟩

def NodeAt (deps : AMap) (k : Nat) (nd : Node) : Prop := ∃ u ∈ nd.members, AtLvl deps k u

def NodeBefore (deps : AMap) (bindings : List (Nat × Nat)) (nd nd' : Node) : Prop :=
  ∃ k k', NodeAt deps k nd ∧ NodeAt deps k' nd' ∧
    (k < k' ∨ (k = k' ∧ nodeKey bindings nd < nodeKey bindings nd'))

def Canon (deps : AMap) (bindings : List (Nat × Nat)) (nd : Node) : Prop :=
  nd.members ≠ [] ∧
  nd.members.Pairwise (fun a b => bindOrder bindings a < bindOrder bindings b) ∧
  (∀ u ∈ nd.members, u ∈ allNodes deps ∧ ∀ v, v ∈ nd.members ↔ SameScc deps u v) ∧
  nd.recursive = recOf deps nd.members

theorem NodeAt.unique {deps : AMap} {bindings : List (Nat × Nat)} {nd : Node}
    (hc : Canon deps bindings nd) {k k' : Nat} (h : NodeAt deps k nd) (h' : NodeAt deps k' nd) :
    k = k' := by
  obtain ⟨u, hu, hat⟩ := h
  obtain ⟨u', hu', hat'⟩ := h'
  exact (hat.of_sameScc (((hc.2.2.1 u hu).2 u').mp hu')).unique hat'

theorem NodeBefore.asymm {deps : AMap} {bindings : List (Nat × Nat)} {nd nd' : Node}
    (hc : Canon deps bindings nd) (hc' : Canon deps bindings nd')
    (h : NodeBefore deps bindings nd nd') (h' : NodeBefore deps bindings nd' nd) : False := by
  obtain ⟨k, k', hk, hk', hlt⟩ := h
  obtain ⟨j', j, hj', hj, hlt'⟩ := h'
  cases NodeAt.unique hc hk hj
  cases NodeAt.unique hc' hk' hj'
  omega

theorem Canon.eq_of_common_member {deps : AMap} {bindings : List (Nat × Nat)} {nd nd' : Node}
    (hc : Canon deps bindings nd) (hc' : Canon deps bindings nd') {u : Nat}
    (hu : u ∈ nd.members) (hu' : u ∈ nd'.members) : nd = nd' := by
  have hmem : nd.members = nd'.members := by
    refine eq_of_pairwise_of_mem_iff hc.2.1 hc'.2.1 (fun x _ y _ h1 h2 => Nat.lt_asymm h1 h2) fun v => ?_
    rw [(hc.2.2.1 u hu).2 v, (hc'.2.2.1 u hu').2 v]
  have hrec : nd.recursive = nd'.recursive := by rw [hc.2.2.2, hc'.2.2.2, hmem]
  cases nd
  cases nd'
  congr

theorem IsDepsFirst.nodeAt_of_atLvl {σ : Sched} (hσ : σ.Valid) {deps : AMap} {groups : List IdSet}
    (h : IsDepsFirst deps groups) {bindings : List (Nat × Nat)} {k n : Nat} {nd : Node}
    (hn : (groups.map (mkNode bindings deps))[n]? = some nd)
    (hk : AtLvl (nodeGraph σ deps bindings groups) k n) : NodeAt deps k nd := by
  rw [List.getElem?_map, Option.map_eq_some_iff] at hn
  obtain ⟨g, hg, rfl⟩ := hn
  obtain ⟨u, hu⟩ := List.exists_mem_of_ne_nil g (h.2.2.1 g (List.mem_of_getElem? hg)).1
  have hl := fun k => h.lvl_quotient (h.edge_nodeGraph hσ bindings)
    (fun x => (h.mem_allNodes_nodeGraph hσ bindings x).mpr) k n u ⟨g, hg, hu⟩
  exact ⟨u, mem_mkNode.mpr hu, (hl (k + 1)).mp hk.1, fun hu' => hk.2 ((hl k).mpr hu')⟩

section
variable {deps : AMap} {groups : List IdSet} (h : IsDepsFirst deps groups) {bindings : List (Nat × Nat)}
  (ho : (bindings.map (·.2)).Nodup) (hcov : ∀ u, u ∈ allNodes deps ↔ u ∈ bindings.map (·.1))
include h ho hcov

theorem IsDepsFirst.canon_mkNode {g : IdSet} (hg : g ∈ groups) :
    Canon deps bindings (mkNode bindings deps g) := by
  obtain ⟨hne, hscc⟩ := h.2.2.1 g hg
  have hall : ∀ u ∈ g, u ∈ bindings.map (·.1) := fun u hu =>
    (hcov u).mp ((h.2.1 u).mpr (List.mem_flatMap.mpr ⟨g, hg, hu⟩))
  refine ⟨?_, ?_, fun u hu => ?_, rfl⟩
  · obtain ⟨u, hu⟩ := List.exists_mem_of_ne_nil g hne
    exact List.ne_nil_of_mem (mem_mkNode.mpr hu)
  · exact sortByKey_strict _ g ((List.pairwise_flatMap.mp h.1).1 g hg) fun a ha b hb =>
      bindOrder_inj ho (hall a ha) (hall b hb)
  · have hu' := mem_mkNode.mp hu
    exact ⟨(hcov u).mpr (hall u hu'), fun v => mem_mkNode.trans (hscc u hu' v)⟩

theorem IsDepsFirst.mem_map_mkNode (nd : Node) :
    nd ∈ groups.map (mkNode bindings deps) ↔ Canon deps bindings nd := by
  constructor
  · intro hnd
    obtain ⟨g, hg, rfl⟩ := List.mem_map.mp hnd
    exact h.canon_mkNode ho hcov hg
  · intro hc
    obtain ⟨u, hu⟩ := List.exists_mem_of_ne_nil _ hc.1
    obtain ⟨g, hg, hug⟩ := List.mem_flatMap.mp ((h.2.1 u).mp (hc.2.2.1 u hu).1)
    rw [hc.eq_of_common_member (h.canon_mkNode ho hcov hg) hu (mem_mkNode.mpr hug)]
    exact List.mem_map_of_mem hg

/-- The key of a node is the source order of one of its members, and no other node has that member. -/
theorem IsDepsFirst.nodeKey_inj {n m : Nat} {nd nd' : Node}
    (hn : (groups.map (mkNode bindings deps))[n]? = some nd)
    (hm : (groups.map (mkNode bindings deps))[m]? = some nd')
    (heq : nodeKey bindings nd = nodeKey bindings nd') : n = m := by
  rw [List.getElem?_map, Option.map_eq_some_iff] at hn hm
  obtain ⟨g, hg, rfl⟩ := hn
  obtain ⟨g', hg', rfl⟩ := hm
  obtain ⟨u, hu, hku⟩ := nodeKey_mem bindings _ (h.canon_mkNode ho hcov (List.mem_of_getElem? hg)).1
  obtain ⟨v, hv, hkv⟩ := nodeKey_mem bindings _ (h.canon_mkNode ho hcov (List.mem_of_getElem? hg')).1
  have hu' : NodeOf groups u n := ⟨g, hg, mem_mkNode.mp hu⟩
  have hv' : NodeOf groups v m := ⟨g', hg', mem_mkNode.mp hv⟩
  rw [hku, hkv] at heq
  cases bindOrder_inj ho ((hcov u).mp (h.mem_allNodes hu')) ((hcov v).mp (h.mem_allNodes hv')) heq
  exact NodeOf.unique h.1 hu' hv'

end

end ZV.Graph
