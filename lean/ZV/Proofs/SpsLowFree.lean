/-
The scope check of the validator (`scopeC` against a list of bound variables) is containment of the
free variables of `ZV/Model/SpsLowFree.lean`, for terms whose nested blocks capture nothing
(`scopeC_subIff`); and a table whose blocks pass the scope check on their own label is such a table
(`blocksC_noCap`).
-/
import ZV.Model.SpsLowFree
import ZV.Proofs.SpsLow

namespace ZV.SpsLow

theorem mem_minus {x : Nat} {xs b : List Nat} : x ∈ minus xs b ↔ x ∈ xs ∧ x ∉ b := by
  unfold minus
  simp [List.mem_filter]

def NoCap (t : Table) : Prop := ∀ lb ∈ t, ∀ x ∈ fvC lb.2, x = lb.1

theorem NoCap.left {a b : Table} (h : NoCap (a ++ b)) : NoCap a := (List.forall_mem_append.1 h).1
theorem NoCap.right {a b : Table} (h : NoCap (a ++ b)) : NoCap b := (List.forall_mem_append.1 h).2

def SubIff (s : List Nat → Bool) (fv : List Nat) : Prop :=
  ∀ bound, s bound = true ↔ ∀ x ∈ fv, x ∈ bound

theorem SubIff.nil : SubIff (fun _ => true) [] := by
  intro bound; simp

theorem SubIff.and {s₁ s₂ : List Nat → Bool} {f₁ f₂ : List Nat} (h₁ : SubIff s₁ f₁)
    (h₂ : SubIff s₂ f₂) : SubIff (fun b => s₁ b && s₂ b) (f₁ ++ f₂) := by
  intro bound
  rw [Bool.and_eq_true, h₁ bound, h₂ bound, List.forall_mem_append]

theorem SubIff.bind {s : List Nat → Bool} {f : List Nat} (ps : List Nat) (h : SubIff s f) :
    SubIff (fun b => s (ps ++ b)) (minus f ps) := by
  intro bound
  show s (ps ++ bound) = true ↔ _
  rw [h (ps ++ bound)]
  constructor
  · intro hh x hx
    have hm := mem_minus.1 hx
    exact (List.mem_append.1 (hh x hm.1)).resolve_left hm.2
  · intro hh x hx
    by_cases hp : x ∈ ps
    · exact List.mem_append_left _ hp
    · exact List.mem_append_right _ (hh x (mem_minus.2 ⟨hx, hp⟩))

/-- two binders at once; `scopeC` adds them in the other order, which a `SubIff` check cannot see -/
theorem SubIff.bind2 {s : List Nat → Bool} {f : List Nat} (pe pc : List Nat) (h : SubIff s f) :
    SubIff (fun b => s (pc ++ (pe ++ b))) (minus (minus f pe) pc) := by
  intro bound
  rw [← ((h.bind pe).bind pc) bound]
  show s _ = true ↔ s _ = true
  rw [h, h]
  simp only [List.mem_append, or_left_comm]

-- Each node's check and its free variables are put together from those of its parts in the same
-- way: `&&` beside `++`, a pattern's variables added to the bound list beside `minus`. A block
-- passes any check, and by `NoCap` has no free variable.
mutual
theorem scopeV_subIff : ∀ v, NoCap (blocksV v) → SubIff (fun b => scopeV b v) (fvV v)
  | .var x, _ => fun bound => by simp [scopeV, fvV]
  | .block l body, hn => fun bound => by
    simp only [scopeV, fvV, true_iff]
    intro x hx
    have hm := mem_minus.1 hx
    exact absurd (by simp [hn (l, body) (List.mem_cons_self ..) x hm.1]) hm.2
  | .closure e c, hn => (scopeV_subIff e hn.left).and (scopeV_subIff c hn.right)
  | .ctor _ a, hn => scopeV_subIff a hn
  | .vcons items _, hn => scopeVs_subIff items hn
  | .complex _ args, hn => scopeVs_subIff args hn
  | .hole, _ | .triv, _ | .lit _, _ => SubIff.nil
theorem scopeVs_subIff : ∀ vs, NoCap (blocksVs vs) → SubIff (fun b => scopeVs b vs) (fvVs vs)
  | [], _ => SubIff.nil
  | v :: vs, hn => (scopeV_subIff v hn.left).and (scopeVs_subIff vs hn.right)
theorem scopeS_subIff : ∀ s, NoCap (blocksS s) → SubIff (fun b => scopeS b s) (fvS s)
  | .bullet, _ => SubIff.nil
  | .arg v rest, hn => (scopeV_subIff v hn.left).and (scopeS_subIff rest hn.right)
  | .tag _ rest, hn => scopeS_subIff rest hn
  | .kont c r, hn => (scopeV_subIff c hn.left).and (scopeS_subIff r hn.right)
theorem scopeC_subIff : ∀ c, NoCap (blocksC c) → SubIff (fun b => scopeC b c) (fvC c)
  | .hole s, hn => scopeS_subIff s hn
  | .jump t s, hn => (scopeV_subIff t hn.left).and (scopeS_subIff s hn.right)
  | .prodMatch v p b, hn => (scopeV_subIff v hn.left).and ((scopeC_subIff b hn.right).bind p.vars)
  | .coprodMatch v arms, hn => (scopeV_subIff v hn.left).and (scopeArms_subIff arms hn.right)
  | .letValue p v b, hn => (scopeV_subIff v hn.left).and ((scopeC_subIff b hn.right).bind p.vars)
  | .letStack s b, hn => (scopeS_subIff s hn.left).and (scopeC_subIff b hn.right)
  | .letArg p s b, hn => (scopeS_subIff s hn.left).and ((scopeC_subIff b hn.right).bind p.vars)
  | .coCase s arms, hn => (scopeS_subIff s hn.left).and (scopeCoArms_subIff arms hn.right)
  | .openClosure v pe pc b, hn =>
    (scopeV_subIff v hn.left).and ((scopeC_subIff b hn.right).bind2 pe.vars pc.vars)
  | .openKont s pc b, hn => (scopeS_subIff s hn.left).and ((scopeC_subIff b hn.right).bind pc.vars)
  | .extern _ _ s, hn => scopeS_subIff s hn
theorem scopeArms_subIff :
    ∀ arms, NoCap (blocksArms arms) → SubIff (fun b => scopeArms b arms) (fvArms arms)
  | [], _ => SubIff.nil
  | (p, body) :: rest, hn =>
    ((scopeC_subIff body hn.left).bind p.vars).and (scopeArms_subIff rest hn.right)
theorem scopeCoArms_subIff :
    ∀ arms, NoCap (blocksCoArms arms) → SubIff (fun b => scopeCoArms b arms) (fvCoArms arms)
  | [], _ => SubIff.nil
  | (_, body) :: rest, hn => (scopeC_subIff body hn.left).and (scopeCoArms_subIff rest hn.right)
end

theorem blocksC_noCap (c : Comp) : ScopeOK (blocksC c) → NoCap (blocksC c) :=
  blocksC_build (P := fun t => ScopeOK t → NoCap t) (c := c) {
    nil := fun _ => nofun
    append := by
      intro a b ha hb h
      have h := List.forall_mem_append.1 h
      exact List.forall_mem_append.2 ⟨ha h.1, hb h.2⟩
    block := by
      intro l body hb h
      have h := List.forall_mem_cons.1 h
      have hrest : NoCap (blocksC body) := hb h.2
      refine List.forall_mem_cons.2 ⟨fun x hx => ?_, hrest⟩
      simpa using (scopeC_subIff body hrest [l]).1 h.1 x hx }

end ZV.SpsLow
