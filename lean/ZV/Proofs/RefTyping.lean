/-
The reference semantics preserves types: the terminal form of a well-typed computation, evaluated
in an environment of its context, has the computation's type (`evalRC_typed`, by induction on the
fuel); in particular it is never `wrong`.
-/
import ZV.Proofs.ZCoreBasic

namespace ZV.ZCore.RM
open ZV.Numeric ZV.Host

/-- typing of reference values (a thunk is typed by SOME context its environment inhabits) -/
inductive RValTy (Δ : Sig) : RVal → VTy → Prop
  | unit : RValTy Δ .unit .unit
  | int (t : IntTy) (x : BitVec t.width) : RValTy Δ (.int t x) (.int t)
  | str (s : List Char) : RValTy Δ (.str s) .str
  | pair {a b : RVal} {ta tb : VTy} : RValTy Δ a ta → RValTy Δ b tb → RValTy Δ (.pair a b) (.prod ta tb)
  | ctor {d : Nat} {k : String} {arg : RVal} {a : VTy} : Δ.ctor? d k = some a → RValTy Δ arg a →
      RValTy Δ (.ctor k arg) (.data d)
  | thunk {m : C} {ρ : REnv} {Γ : Ctx} {b : CTy} :
      (∀ x a, Ctx.get? Γ x = some a → (REnv.get? ρ x).isSome = true) →
      (∀ x a rv, Ctx.get? Γ x = some a → REnv.get? ρ x = some rv → RValTy Δ rv a) →
      HasTyC Δ Γ m b → RValTy Δ (.thunk m ρ) (.thk b)

def EnvTy (Δ : Sig) (ρ : REnv) (Γ : Ctx) : Prop :=
  ∀ x a, Ctx.get? Γ x = some a → ∃ rv, REnv.get? ρ x = some rv ∧ RValTy Δ rv a

theorem EnvTy.nil (Δ : Sig) : EnvTy Δ [] [] := fun _ _ h => nomatch h

theorem EnvTy.cons {Δ : Sig} {ρ : REnv} {Γ : Ctx} (h : EnvTy Δ ρ Γ) (x : Nat) {rv : RVal} {a : VTy}
    (hv : RValTy Δ rv a) : EnvTy Δ ((x, rv) :: ρ) ((x, a) :: Γ) :=
  assoc_rel_cons (R := fun a rv => RValTy Δ rv a) h x hv

theorem RValTy.mkThunk {Δ : Sig} {m : C} {ρ : REnv} {Γ : Ctx} {b : CTy} (h : EnvTy Δ ρ Γ)
    (hm : HasTyC Δ Γ m b) : RValTy Δ (.thunk m ρ) (.thk b) :=
  .thunk (lookup_rel_iff.1 h).1 (lookup_rel_iff.1 h).2 hm

theorem RValTy.thunk_inv {Δ : Sig} {rv : RVal} {b : CTy} (h : RValTy Δ rv (.thk b)) :
    ∃ m ρ Γ, rv = .thunk m ρ ∧ EnvTy Δ ρ Γ ∧ HasTyC Δ Γ m b := by
  cases h with
  | thunk h1 h2 hm => exact ⟨_, _, _, rfl, lookup_rel_iff.2 ⟨h1, h2⟩, hm⟩

/-- typing of terminal forms: `exit` only at `OS`, `trap` anywhere, `wrong` nowhere -/
inductive RTermTy (Δ : Sig) : RTerm → CTy → Prop
  | ret {rv : RVal} {a : VTy} : RValTy Δ rv a → RTermTy Δ (.ret rv) (.ret a)
  | lam {x : Nat} {m : C} {ρ : REnv} {Γ : Ctx} {a : VTy} {b : CTy} : EnvTy Δ ρ Γ →
      HasTyC Δ ((x, a) :: Γ) m b → RTermTy Δ (.lam x m ρ) (.arr a b)
  | cocase {arms : List (String × C)} {ρ : REnv} {Γ : Ctx} {c : Nat} {dtors : List (String × CTy)} :
      EnvTy Δ ρ Γ → Δ.codatas[c]? = some dtors →
      (∀ k b, (k, b) ∈ dtors → (arms.filter (·.1 == k)).length = 1) → CoArmsTy Δ Γ c arms →
      RTermTy Δ (.cocase arms ρ) (.codata c)
  | exit (code : Int) : RTermTy Δ (.exit code) .os
  | trap (b : CTy) : RTermTy Δ .trap b

theorem evalRV_typed {Δ : Sig} {ρ : REnv} {Γ : Ctx} (he : EnvTy Δ ρ Γ) :
    ∀ {v : V} {a : VTy}, HasTyV Δ Γ v a → ∃ rv, evalRV ρ v = some rv ∧ RValTy Δ rv a
  | _, _, .var hx => he _ _ hx
  | _, _, .unit => ⟨_, rfl, .unit⟩
  | _, _, .int t x => ⟨_, rfl, .int t x⟩
  | _, _, .str s => ⟨_, rfl, .str s⟩
  | _, _, .pair hv hw => by
    obtain ⟨rv, hr, hvt⟩ := evalRV_typed he hv
    obtain ⟨rw', hr', hwt⟩ := evalRV_typed he hw
    exact ⟨_, by simp only [evalRV, hr, hr'], .pair hvt hwt⟩
  | _, _, .ctor hc ha => by
    obtain ⟨rv, hr, hvt⟩ := evalRV_typed he ha
    exact ⟨_, by simp only [evalRV, hr, Option.map_some], .ctor hc hvt⟩
  | _, _, .thunk hm => ⟨_, rfl, RValTy.mkThunk he hm⟩

/-- the result of a reference evaluation is "out of fuel" or a terminal form of type `b` -/
def ResTy (Δ : Sig) (b : CTy) : Option (RTerm × Bytes) → Prop
  | some (t, _) => RTermTy Δ t b
  | none => True

theorem evalRC_typed (Δ : Sig) : ∀ (fuel : Nat) (ρ : REnv) (m : C) (out : Bytes) (Γ : Ctx) (b : CTy),
    HasTyC Δ Γ m b → EnvTy Δ ρ Γ → ResTy Δ b (evalRC fuel ρ m out) := by
  intro fuel
  induction fuel with
  | zero => intro ρ m out Γ b _ _; exact trivial
  | succ fuel ih =>
    intro ρ m out Γ b hty he
    cases hty with
    | ret hv =>
      obtain ⟨rv, hr, hvt⟩ := evalRV_typed he hv
      simp only [evalRC, hr]
      exact RTermTy.ret hvt
    | bind hm hn =>
      simp only [evalRC]
      have h1 := ih ρ _ out Γ _ hm he
      generalize evalRC fuel ρ _ out = r1 at h1 ⊢
      rcases r1 with _ | ⟨t1, out1⟩
      · exact trivial
      cases h1 with
      | ret hvt => exact ih _ _ out1 _ b hn (he.cons _ hvt)
      | trap _ => exact RTermTy.trap b
    | clet hv hm =>
      obtain ⟨rv, hr, hvt⟩ := evalRV_typed he hv
      simp only [evalRC, hr]
      exact ih _ _ out _ b hm (he.cons _ hvt)
    | letPair hv hm =>
      obtain ⟨rv, hr, hvt⟩ := evalRV_typed he hv
      cases hvt with
      | pair ha hb =>
        simp only [evalRC, hr]
        exact ih _ _ out _ b hm ((he.cons _ ha).cons _ hb)
    | fn hm =>
      simp only [evalRC]
      exact RTermTy.lam he hm
    | app hm hv =>
      obtain ⟨rv, hr, hvt⟩ := evalRV_typed he hv
      simp only [evalRC, hr]
      have h1 := ih ρ _ out Γ _ hm he
      generalize evalRC fuel ρ _ out = r1 at h1 ⊢
      rcases r1 with _ | ⟨t1, out1⟩
      · exact trivial
      cases h1 with
      | lam he' hbody => exact ih _ _ out1 _ b hbody (he'.cons _ hvt)
      | trap _ => exact RTermTy.trap b
    | force hv =>
      obtain ⟨rv, hr, hvt⟩ := evalRV_typed he hv
      obtain ⟨m', ρ', Γ', rfl, he', hm'⟩ := hvt.thunk_inv
      simp only [evalRC, hr]
      exact ih _ _ out _ b hm' he'
    | fix hm =>
      simp only [evalRC]
      exact ih _ _ out _ b hm (he.cons _ (RValTy.mkThunk he (.fix hm)))
    | case hv hd hcov harms =>
      obtain ⟨rv, hr, hvt⟩ := evalRV_typed he hv
      cases hvt with
      | ctor hc ha =>
        obtain ⟨x, m', hf, hty'⟩ := harms.find hc (hcov _ _ (Sig.ctor?_mem hd hc))
        simp only [evalRC, hr, hf]
        exact ih _ _ out _ b hty' (he.cons _ ha)
    | comatch hd hcov harms =>
      simp only [evalRC]
      exact RTermTy.cocase he hd hcov harms
    | dtor hm hd =>
      simp only [evalRC]
      have h1 := ih ρ _ out Γ _ hm he
      generalize evalRC fuel ρ _ out = r1 at h1 ⊢
      rcases r1 with _ | ⟨t1, out1⟩
      · exact trivial
      cases h1 with
      | cocase he' hd' hcov harms =>
        obtain ⟨body, hf, hty'⟩ := harms.find hd (hcov _ _ (Sig.dtor?_mem hd' hd))
        simp only [hf]
        exact ih _ _ out1 _ b hty' he'
      | trap _ => exact RTermTy.trap b
    | arith ty op ha hb =>
      obtain ⟨ra, hra, hat⟩ := evalRV_typed he ha
      obtain ⟨rb, hrb, hbt⟩ := evalRV_typed he hb
      cases hat; cases hbt
      simp only [evalRC, hra, hrb, dite_true]
      split
      · exact RTermTy.ret (.int _ _)
      · exact RTermTy.trap _
    | cmp ty op ha hb hy hn =>
      obtain ⟨ra, hra, hat⟩ := evalRV_typed he ha
      obtain ⟨rb, hrb, hbt⟩ := evalRV_typed he hb
      cases hat; cases hbt
      simp only [evalRC, hra, hrb, dite_true]
      generalize Numeric.cmp _ _ _ _ = c
      split
      · exact ih _ _ out _ b hy he
      · exact ih _ _ out _ b hn he
    | toStr ty ha =>
      obtain ⟨ra, hra, hat⟩ := evalRV_typed he ha
      cases hat
      simp only [evalRC, hra, dite_true]
      exact RTermTy.ret (.str _)
    | strAppend ha hb =>
      obtain ⟨ra, hra, hat⟩ := evalRV_typed he ha
      obtain ⟨rb, hrb, hbt⟩ := evalRV_typed he hb
      cases hat; cases hbt
      simp only [evalRC, hra, hrb]
      exact RTermTy.ret (.str _)
    | writeLine hs hk =>
      obtain ⟨ra, hra, hat⟩ := evalRV_typed he hs
      cases hat
      simp only [evalRC, hra]
      exact ih _ _ _ _ _ hk he
    | exit hc =>
      obtain ⟨ra, hra, hat⟩ := evalRV_typed he hc
      cases hat
      simp only [evalRC, hra]
      exact RTermTy.exit _

/-- **Preservation** for the reference semantics: the terminal form of a well-typed computation has
its type; in particular it is never `wrong`. -/
theorem preservation (Δ : Sig) : ∀ (fuel : Nat) (ρ : REnv) (m : C) (out : Bytes) (t : RTerm) (out' : Bytes)
    (Γ : Ctx) (b : CTy), HasTyC Δ Γ m b → EnvTy Δ ρ Γ → evalRC fuel ρ m out = some (t, out') →
    RTermTy Δ t b := by
  intro fuel ρ m out t out' Γ b hty he h
  have := evalRC_typed Δ fuel ρ m out Γ b hty he
  rwa [h] at this

end ZV.ZCore.RM
