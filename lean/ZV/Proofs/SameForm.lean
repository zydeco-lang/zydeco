/-
Terms of the same form. `Layer K` relates two computations built by the same constructor from parts
that correspond: values up to the names of their variables, subcomputations along an arbitrary
correspondence `K` of code, with a relation on names that is extended below binders. A `K` that
only relates terms of the same form (`KeepsForm`) cannot be seen by the checker (here) or by the
reference evaluator (`Lockstep`). The canonical renaming is such a `K`; the identity-monad
translation is one away from `ret` and `do`.
-/
import ZV.Proofs.ZCoreBasic

namespace ZV.ZCore.Lk
open ZV.ZCore ZV.Numeric

/-- Which free name of the left term stands for which free name of the right term. -/
abbrev NRel := Nat → Nat → Prop

/-- `N` below a pair of binders: each of the two bound names hides the older uses of itself, on its
own side only. -/
def NRel.ext (N : NRel) (x x' : Nat) : NRel :=
  fun y k => (y = x ∧ k = x') ∨ (y ≠ x ∧ k ≠ x' ∧ N y k)

theorem NRel.ext_refl {N : NRel} (hN : ∀ x, N x x) (x y : Nat) : N.ext x x y y := by
  by_cases h : y = x
  · exact .inl ⟨h, h⟩
  · exact .inr ⟨h, h, hN y⟩

/-- The lookups of two association lists agree, in the sense `P`, at names that stand for each
other. -/
def Along {α β : Type} (N : NRel) (P : Option α → Option β → Prop) (l : List (Nat × α))
    (l' : List (Nat × β)) : Prop :=
  ∀ y k, N y k → P (assoc l y) (assoc l' k)

theorem Along.cons {α β : Type} {N : NRel} {P : Option α → Option β → Prop} {l : List (Nat × α)}
    {l' : List (Nat × β)} (h : Along N P l l') (x x' : Nat) {a : α} {b : β}
    (hab : P (some a) (some b)) : Along (N.ext x x') P ((x, a) :: l) ((x', b) :: l') := by
  intro y k hyk
  rw [assoc_cons, assoc_cons]
  rcases hyk with ⟨rfl, rfl⟩ | ⟨hy, hk, hN⟩
  · rw [if_pos rfl, if_pos rfl]; exact hab
  · rw [if_neg (Ne.symm hy), if_neg (Ne.symm hk)]
    exact h y k hN

/-- Two lists of arms with the same labels in the same order and bodies related by `R`. -/
inductive Arms₂ {α β : Type} (R : α → β → Prop) : List (String × α) → List (String × β) → Prop
  | nil : Arms₂ R [] []
  | cons {k : String} {a : α} {b : β} {l l'} : R a b → Arms₂ R l l' →
      Arms₂ R ((k, a) :: l) ((k, b) :: l')

section
variable {α β : Type} {R : α → β → Prop} {l : List (String × α)} {l' : List (String × β)}

theorem Arms₂.find (h : Arms₂ R l l') (k : String) :
    (l.find? (·.1 == k) = none ∧ l'.find? (·.1 == k) = none) ∨
    ∃ c a b, l.find? (·.1 == k) = some (c, a) ∧ l'.find? (·.1 == k) = some (c, b) ∧ R a b := by
  induction h with
  | nil => exact .inl ⟨rfl, rfl⟩
  | cons hab _ ih =>
    simp only [List.find?_cons]
    split
    · exact .inr ⟨_, _, _, rfl, rfl, hab⟩
    · exact ih

theorem Arms₂.filter_length (h : Arms₂ R l l') (k : String) :
    (l'.filter (·.1 == k)).length = (l.filter (·.1 == k)).length := by
  induction h with
  | nil => rfl
  | cons _ _ ih =>
    simp only [List.filter_cons]
    split <;> simp only [List.length_cons, ih]

theorem Arms₂.all_key {R : α → α → Prop} {l l' : List (String × α)} (h : Arms₂ R l l')
    (f : String × α → Bool) (hf : ∀ k a b, f (k, a) = f (k, b)) : l'.all f = l.all f := by
  induction h with
  | nil => rfl
  | cons _ _ ih => rw [List.all_cons, List.all_cons, ih, hf]

end

section
variable (K : NRel → C → C → Prop)

/-- Values that differ in the names of their variables, along `N`, and in the code of their thunks,
along `K`. -/
inductive VCorr (N : NRel) : V → V → Prop
  | var {x k : Nat} : N x k → VCorr N (.var x) (.var k)
  | unit : VCorr N .unit .unit
  | int (t : IntTy) (x : BitVec t.width) : VCorr N (.int t x) (.int t x)
  | str (s : List Char) : VCorr N (.str s) (.str s)
  | pair {a a' b b' : V} : VCorr N a a' → VCorr N b b' → VCorr N (.pair a b) (.pair a' b')
  | ctor (d : Nat) (k : String) {a a' : V} : VCorr N a a' → VCorr N (.ctor d k a) (.ctor d k a')
  | thunk {m m' : C} (b : CTy) : K N m m' → VCorr N (.thunk m b) (.thunk m' b)

/-- The bodies of two arms of a `match`, each below the arm's binder. -/
def ArmCorr (N : NRel) (b b' : Nat × C) : Prop := K (N.ext b.1 b'.1) b.2 b'.2

/-- The same constructor on both sides, applied to corresponding parts. -/
inductive Layer (N : NRel) : C → C → Prop
  | ret {v v' : V} : VCorr K N v v' → Layer N (.ret v) (.ret v')
  | bind {x x' : Nat} {a : VTy} {m m' k k' : C} : K N m m' → K (N.ext x x') k k' →
      Layer N (.bind x a m k) (.bind x' a m' k')
  | clet {x x' : Nat} {v v' : V} {m m' : C} : VCorr K N v v' → K (N.ext x x') m m' →
      Layer N (.clet x v m) (.clet x' v' m')
  | letPair {x x' y y' : Nat} {v v' : V} {m m' : C} : VCorr K N v v' →
      K ((N.ext x x').ext y y') m m' → Layer N (.letPair x y v m) (.letPair x' y' v' m')
  | fn {x x' : Nat} {a : VTy} {m m' : C} : K (N.ext x x') m m' → Layer N (.fn x a m) (.fn x' a m')
  | app {m m' : C} {v v' : V} : K N m m' → VCorr K N v v' → Layer N (.app m v) (.app m' v')
  | force {v v' : V} : VCorr K N v v' → Layer N (.force v) (.force v')
  -- the unrolling binds the name to the whole term, so the whole terms correspond as well
  | fix {f f' : Nat} {b : CTy} {m m' : C} : K N (.fix f b m) (.fix f' b m') → K (N.ext f f') m m' →
      Layer N (.fix f b m) (.fix f' b m')
  | case {v v' : V} {d : Nat} {arms arms' : List (String × Nat × C)} {b : CTy} : VCorr K N v v' →
      Arms₂ (ArmCorr K N) arms arms' → Layer N (.case v d arms b) (.case v' d arms' b)
  | comatch {c : Nat} {arms arms' : List (String × C)} : Arms₂ (K N) arms arms' →
      Layer N (.comatch c arms) (.comatch c arms')
  | dtor {m m' : C} {k : String} : K N m m' → Layer N (.dtor m k) (.dtor m' k)
  | arith (t : IntTy) (op : ArithOp) {a a' b b' : V} : VCorr K N a a' → VCorr K N b b' →
      Layer N (.arith t op a b) (.arith t op a' b')
  | cmp (t : IntTy) (op : CmpOp) (res : CTy) {a a' b b' : V} {yes yes' no no' : C} :
      VCorr K N a a' → VCorr K N b b' → K N yes yes' → K N no no' →
      Layer N (.cmp t op a b res yes no) (.cmp t op a' b' res yes' no')
  | toStr (t : IntTy) {a a' : V} : VCorr K N a a' → Layer N (.toStr t a) (.toStr t a')
  | strAppend {a a' b b' : V} : VCorr K N a a' → VCorr K N b b' →
      Layer N (.strAppend a b) (.strAppend a' b')
  | writeLine {s s' : V} {k k' : C} : VCorr K N s s' → K N k k' →
      Layer N (.writeLine s k) (.writeLine s' k')
  | exit {a a' : V} : VCorr K N a a' → Layer N (.exit a) (.exit a')

def KeepsForm : Prop := ∀ {N : NRel} {m m' : C}, K N m m' → Layer K N m m'

end

/-- Names that stand for each other are bound to the same type. -/
def CtxAgree (N : NRel) (Γ Γ' : Ctx) : Prop :=
  Along N (fun o o' => ∃ a, o = some a ∧ o' = some a) Γ Γ'

theorem CtxAgree.cons {N : NRel} {Γ Γ' : Ctx} (h : CtxAgree N Γ Γ') (x x' : Nat) (a : VTy) :
    CtxAgree (N.ext x x') ((x, a) :: Γ) ((x', a) :: Γ') :=
  Along.cons h x x' ⟨a, rfl, rfl⟩

section
variable {K : NRel → C → C → Prop}

mutual
  theorem inferV_corr (hK : KeepsForm K) (Δ : Sig) : ∀ (v : V) {N : NRel} {v' : V} {Γ Γ' : Ctx},
      VCorr K N v v' → CtxAgree N Γ Γ' → inferV Δ Γ' v' = inferV Δ Γ v
    | .var x, _, _, _, _, .var hN, hr => by
      -- restated with the lookup that `inferV` calls, which unfolds to the `assoc` of `hr`
      obtain ⟨a, h1, h2⟩ : ∃ a, Ctx.get? _ _ = some a ∧ Ctx.get? _ _ = some a := hr _ _ hN
      simp only [inferV, h1, h2]
    | .unit, _, _, _, _, .unit, _ => rfl
    | .int _ _, _, _, _, _, .int _ _, _ => rfl
    | .str _, _, _, _, _, .str _, _ => rfl
    | .pair p q, _, _, _, _, .pair hp hq, hr => by
      simp only [inferV, inferV_corr hK Δ p hp hr, inferV_corr hK Δ q hq hr]
    | .ctor _ _ p, _, _, _, _, .ctor _ _ hp, hr => by simp only [inferV, inferV_corr hK Δ p hp hr]
    | .thunk m _, _, _, _, _, .thunk _ hm, hr => by simp only [inferV, inferC_layer hK Δ m hm hr]
  termination_by structural v => v
  /-- **Code related by a correspondence that keeps the form of every term gets the same answer
  from the checker**, in contexts that agree. -/
  theorem inferC_layer (hK : KeepsForm K) (Δ : Sig) : ∀ (m : C) {N : NRel} {m' : C} {Γ Γ' : Ctx},
      K N m m' → CtxAgree N Γ Γ' → inferC Δ Γ' m' = inferC Δ Γ m
    | .ret v, _, _, _, _, h, hr | .force v, _, _, _, _, h, hr | .toStr _ v, _, _, _, _, h, hr
    | .exit v, _, _, _, _, h, hr => by
      cases hK h
      next hv => simp only [inferC, inferV_corr hK Δ v hv hr]
    | .bind x a m k, _, _, _, _, h, hr => by
      cases hK h with
      | bind hm hk =>
        simp only [inferC, inferC_layer hK Δ m hm hr, inferC_layer hK Δ k hk (hr.cons x _ a)]
    | .clet x v m, _, _, _, _, h, hr => by
      cases hK h with
      | clet hv hm =>
        have := fun a => inferC_layer hK Δ m hm (hr.cons x _ a)
        simp only [inferC, inferV_corr hK Δ v hv hr, this]
    | .letPair x y v m, _, _, _, _, h, hr => by
      cases hK h with
      | letPair hv hm =>
        have := fun ta tb => inferC_layer hK Δ m hm ((hr.cons x _ ta).cons y _ tb)
        simp only [inferC, inferV_corr hK Δ v hv hr, this]
    | .fn x a m, _, _, _, _, h, hr => by
      cases hK h with
      | fn hm => simp only [inferC, inferC_layer hK Δ m hm (hr.cons x _ a)]
    | .app m v, _, _, _, _, h, hr => by
      cases hK h with
      | app hm hv => simp only [inferC, inferV_corr hK Δ v hv hr, inferC_layer hK Δ m hm hr]
    | .fix f b m, _, _, _, _, h, hr => by
      cases hK h with
      | fix _ hm => simp only [inferC, inferC_layer hK Δ m hm (hr.cons f _ (.thk b))]
    | .case v d arms b, _, _, _, _, h, hr => by
      cases hK h with
      | case hv ha =>
        -- the coverage tests see the arms only through their labels
        have e (ctors : List (String × VTy)) :=
          ha.all_key (fun (k, _, _) => ctors.any (·.1 == k)) (by intros; rfl)
        simp only [inferC, inferV_corr hK Δ v hv hr, checkArms_layer hK Δ arms ha hr,
          ha.filter_length, e]
    | .comatch c arms, _, _, _, _, h, hr => by
      cases hK h with
      | comatch ha =>
        have e (dtors : List (String × CTy)) :=
          ha.all_key (fun (k, _) => dtors.any (·.1 == k)) (by intros; rfl)
        simp only [inferC, checkCoArms_layer hK Δ arms ha hr, ha.filter_length, e]
    | .dtor m k, _, _, _, _, h, hr => by
      cases hK h with
      | dtor hm => simp only [inferC, inferC_layer hK Δ m hm hr]
    | .arith _ _ p q, _, _, _, _, h, hr | .strAppend p q, _, _, _, _, h, hr => by
      cases hK h
      next hp hq => simp only [inferC, inferV_corr hK Δ p hp hr, inferV_corr hK Δ q hq hr]
    | .cmp t op p q res yes no, _, _, _, _, h, hr => by
      cases hK h with
      | cmp _ _ _ hp hq hy hn =>
        simp only [inferC, inferV_corr hK Δ p hp hr, inferV_corr hK Δ q hq hr,
          inferC_layer hK Δ yes hy hr, inferC_layer hK Δ no hn hr]
    | .writeLine p k, _, _, _, _, h, hr => by
      cases hK h with
      | writeLine hp hk => simp only [inferC, inferV_corr hK Δ p hp hr, inferC_layer hK Δ k hk hr]
  termination_by structural m => m
  theorem checkArms_layer (hK : KeepsForm K) (Δ : Sig) : ∀ (arms : List (String × Nat × C))
      {N : NRel} {arms' : List (String × Nat × C)} {Γ Γ' : Ctx} {d : Nat} {b : CTy},
      Arms₂ (ArmCorr K N) arms arms' → CtxAgree N Γ Γ' →
      checkArms Δ Γ' d arms' b = checkArms Δ Γ d arms b
    | [], _, _, _, _, _, _, .nil, _ => rfl
    | (_, x, m) :: rest, _, _, _, _, _, _, .cons (b := (x', _)) hm hrest, hr => by
      have := fun a => inferC_layer hK Δ m hm (hr.cons x x' a)
      simp only [checkArms, this, checkArms_layer hK Δ rest hrest hr]
  termination_by structural arms => arms
  theorem checkCoArms_layer (hK : KeepsForm K) (Δ : Sig) : ∀ (arms : List (String × C)) {N : NRel}
      {arms' : List (String × C)} {Γ Γ' : Ctx} {c : Nat}, Arms₂ (K N) arms arms' →
      CtxAgree N Γ Γ' → checkCoArms Δ Γ' c arms' = checkCoArms Δ Γ c arms
    | [], _, _, _, _, _, .nil, _ => rfl
    | (_, m) :: rest, _, _, _, _, _, .cons hm hrest, hr => by
      simp only [checkCoArms, inferC_layer hK Δ m hm hr, checkCoArms_layer hK Δ rest hrest hr]
  termination_by structural arms => arms
end

end

end ZV.ZCore.Lk
