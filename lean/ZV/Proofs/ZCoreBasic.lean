/-
Small facts about the ZCore model that every development over it uses: lookup in an extended
association list (contexts, reference environments and machine environments all shadow the same
way), one step of the checker's error monad, what acceptance of a program means, the arm that a
`match` or `comatch` with well-typed arms selects, and that fuel only matters until a reference
evaluation has finished.
-/
import ZV.Model.ZCoreSpec
import ZV.Proofs.Assoc

namespace ZV.ZCore
open ZV.Machine

/-- "Every binding on the left has a related one on the right", in the two halves in which an
inductive relation can hold it of the environments of its thunks (an `∃` under the `∀` is not
strictly positive). -/
theorem lookup_rel_iff {γ α β : Type} {f : γ → Option α} {g : γ → Option β} {R : α → β → Prop} :
    (∀ x a, f x = some a → ∃ b, g x = some b ∧ R a b) ↔
      (∀ x a, f x = some a → (g x).isSome = true) ∧ (∀ x a b, f x = some a → g x = some b → R a b) := by
  refine ⟨fun h => ⟨fun x a hx => ?_, fun x a b hx hg => ?_⟩, fun ⟨h1, h2⟩ x a hx => ?_⟩
  · obtain ⟨b, hb, _⟩ := h x a hx
    rw [hb]; rfl
  · obtain ⟨b', hb, hr⟩ := h x a hx
    rw [hg] at hb; cases hb; exact hr
  · obtain ⟨b, hb⟩ := Option.isSome_iff_exists.1 (h1 x a hx)
    exact ⟨b, hb, h2 x a b hx hb⟩

theorem Ctx.get?_cons (Γ : Ctx) (x : Nat) (a : VTy) (y : Nat) :
    Ctx.get? ((x, a) :: Γ) y = if x = y then some a else Ctx.get? Γ y := assoc_cons (x, a) Γ y

theorem _root_.ZV.Machine.Env.get?_bind (env : Env) (x : Nat) (v : SemVal) (y : Nat) :
    Env.get? (env.bind x v) y = if x = y then some v else Env.get? env y := assoc_cons (x, v) env y

theorem bind_eq_ok {ε α β : Type} {x : Except ε α} {f : α → Except ε β} {b : β} :
    (x >>= f) = .ok b ↔ ∃ a, x = .ok a ∧ f a = .ok b := by
  cases x with
  | error e => exact ⟨fun h => (nomatch h), fun ⟨_, h, _⟩ => (nomatch h)⟩
  | ok a => exact ⟨fun h => ⟨a, rfl, h⟩, fun ⟨_, h, h'⟩ => by cases h; exact h'⟩

theorem ite_eq_ok {ε α : Type} {c : Prop} [Decidable c] {x : Except ε α} {e : ε} {b : α} :
    (if c then x else .error e) = .ok b ↔ c ∧ x = .ok b := by
  by_cases h : c <;> simp [h]

theorem ite_error_eq_ok {ε α : Type} {c : Prop} [Decidable c] {x : Except ε α} {e : ε} {b : α} :
    (if c then .error e else x) = .ok b ↔ ¬ c ∧ x = .ok b := by
  by_cases h : c <;> simp [h]

theorem checkProgram_ok {Δ : Sig} {body : C} (h : checkProgram Δ body = .ok ()) :
    inferC Δ [] body = .ok .os := by
  unfold checkProgram at h
  split at h <;> simp_all

theorem Sig.ctor?_mem {Δ : Sig} {d : Nat} {k : String} {a : VTy} {ctors : List (String × VTy)}
    (hd : Δ.datas[d]? = some ctors) (hk : Δ.ctor? d k = some a) : (k, a) ∈ ctors := by
  simp only [Sig.ctor?, hd, Option.bind_some] at hk
  exact mem_of_assoc hk

theorem Sig.dtor?_mem {Δ : Sig} {c : Nat} {k : String} {b : CTy} {dtors : List (String × CTy)}
    (hd : Δ.codatas[c]? = some dtors) (hk : Δ.dtor? c k = some b) : (k, b) ∈ dtors := by
  simp only [Sig.dtor?, hd, Option.bind_some] at hk
  exact mem_of_assoc hk

theorem ArmsTy.find {Δ : Sig} {Γ : Ctx} {d : Nat} {b : CTy} {k : String} {a : VTy}
    (hk : Δ.ctor? d k = some a) : ∀ {arms : List (String × Nat × C)}, ArmsTy Δ Γ d arms b →
      (arms.filter (·.1 == k)).length = 1 →
      ∃ x m, arms.find? (·.1 == k) = some (k, x, m) ∧ HasTyC Δ ((x, a) :: Γ) m b
  | _, .nil, h => by cases h
  | _, .cons (k := k₁) (x := x) (m := m) hka hm hrest, h => by
    by_cases hkk : k₁ = k
    · subst hkk
      rw [hk] at hka
      cases hka
      exact ⟨x, m, by simp, hm⟩
    · have e : (k₁ == k) = false := by simpa using hkk
      simp only [List.filter_cons, List.find?_cons, e] at h ⊢
      exact hrest.find hk h

theorem CoArmsTy.find {Δ : Sig} {Γ : Ctx} {c : Nat} {k : String} {b : CTy}
    (hk : Δ.dtor? c k = some b) : ∀ {arms : List (String × C)}, CoArmsTy Δ Γ c arms →
      (arms.filter (·.1 == k)).length = 1 →
      ∃ m, arms.find? (·.1 == k) = some (k, m) ∧ HasTyC Δ Γ m b
  | _, .nil, h => by cases h
  | _, .cons (k := k₁) (m := m) hkb hm hrest, h => by
    by_cases hkk : k₁ = k
    · subst hkk
      rw [hk] at hkb
      cases hkb
      exact ⟨m, by simp, hm⟩
    · have e : (k₁ == k) = false := by simpa using hkk
      simp only [List.filter_cons, List.find?_cons, e] at h ⊢
      exact hrest.find hk h

/-- With less fuel a reference evaluation has run out or gives the same. Three kinds of cases: no
recursive call; one call in tail position, behind a match on values; a call whose terminal form is
matched before the evaluation goes on (`bind`, `app`, `dtor`): that call has run out, or may be
rewritten to the one with more fuel. -/
theorem evalRC_none_or_eq_of_le : ∀ {f f' : Nat}, f ≤ f' → ∀ (ρ : REnv) (m : C) (out : Host.Bytes),
    evalRC f ρ m out = none ∨ evalRC f ρ m out = evalRC f' ρ m out
  | 0, _, _, _, _, _ => .inl rfl
  | f + 1, f' + 1, hle, ρ, m, out => by
    have ih := evalRC_none_or_eq_of_le (Nat.le_of_succ_le_succ hle)
    cases m with
    | ret | fn | comatch | arith | toStr | strAppend | exit => exact .inr rfl
    | fix => exact ih _ _ _
    | clet | letPair | force | writeLine =>
      simp only [evalRC]
      split
      · exact ih _ _ _
      · exact .inr rfl
    | case =>
      simp only [evalRC]
      split
      · split
        · exact ih _ _ _
        · exact .inr rfl
      · exact .inr rfl
    | cmp t =>
      simp only [evalRC]
      split
      · next t1 _ t2 _ _ _ =>
        -- `split` on the two `dite`s goes through as well, at three times the cost
        by_cases h1 : t1 = t
        · by_cases h2 : t2 = t
          · simp only [dif_pos h1, dif_pos h2]
            generalize Numeric.cmp _ _ _ _ = c
            cases c <;> exact ih _ _ _
          · simp only [dif_pos h1, dif_neg h2]; exact .inr trivial
        · simp only [dif_neg h1]; exact .inr trivial
      · exact .inr rfl
    | bind x a m n =>
      simp only [evalRC]
      rcases ih ρ m out with e | e <;> rw [e]
      · exact .inl rfl
      · split <;> first | exact ih _ _ _ | exact .inr rfl
    | app m v =>
      simp only [evalRC]
      split
      · exact .inr rfl
      · rcases ih ρ m out with e | e <;> rw [e]
        · exact .inl rfl
        · split <;> first | exact ih _ _ _ | exact .inr rfl
    | dtor m k =>
      simp only [evalRC]
      rcases ih ρ m out with e | e <;> rw [e]
      · exact .inl rfl
      · split
        · split
          · exact ih _ _ _
          · exact .inr rfl
        all_goals exact .inr rfl

theorem evalRC_mono : ∀ (f f' : Nat) (ρ : REnv) (m : C) (out : Host.Bytes) (r : RTerm × Host.Bytes),
    evalRC f ρ m out = some r → f ≤ f' → evalRC f' ρ m out = some r := by
  intro f f' ρ m out r h hle
  rcases evalRC_none_or_eq_of_le hle ρ m out with e | e
  · rw [e] at h; cases h
  · rw [← e]; exact h

end ZV.ZCore
