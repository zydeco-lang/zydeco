/-
The session's input side (`ZV/Model/Session.lean`). The file system and the overlays follow plain
bookkeeping after any history (`fs_run`, `overlayOf_run`); what needs the history to be well formed
is that every known input's disk text is current (`SyncedExcept`, `synced_run`), and then a query
sees the overlay, else the disk (`effective_run`).
-/
import ZV.Model.Session

namespace ZV.Session

@[simp] theorem run_cons (s : State) (op : Op) (r : List Op) : run s (op :: r) = run (step s op) r := rfl

/-- The one path an operation is about. -/
def Op.path : Op → Path
  | .setOverlay p _ | .clearOverlay p | .refreshDisk p | .lookup p | .write p _ | .delete p => p

/-- The path whose refresh is due after an operation (the `pending` of `wfAux`). -/
def Op.pending : Op → Option Path
  | .write p _ | .delete p => some p
  | _ => none

theorem wfAux_none_cons (op : Op) (r : List Op) : wfAux none (op :: r) = wfAux op.pending r := by
  cases op <;> rfl

theorem wfAux_some_cons {p : Path} {op : Op} {r : List Op} (h : wfAux (some p) (op :: r) = true) :
    (op = .refreshDisk p ∨ op = .clearOverlay p) ∧ wfAux none r = true := by
  cases op <;> simp_all [wfAux]

theorem step_fs (s : State) (op : Op) :
    (step s op).fs = match op with
      | .write p t => upd s.fs p (some t)
      | .delete p => upd s.fs p none
      | _ => s.fs := by
  cases op with
  | clearOverlay p | refreshDisk p | lookup p =>
    simp only [step, sourceInput]; cases s.files p <;> rfl
  | _ => rfl

theorem fs_run (h : List Op) (s : State) : (run s h).fs = specFs s.fs h := by
  induction h generalizing s with
  | nil => rfl
  | cons op r ih => rw [run_cons, ih, step_fs]; cases op <;> rfl

theorem step_fs_other (s : State) (op : Op) {q : Path} (h : q ≠ op.path) :
    (step s op).fs q = s.fs q := by
  rw [step_fs]; cases op <;> first | rfl | exact upd_other _ _ _ _ h

theorem step_files_other (s : State) (op : Op) {q : Path} (h : q ≠ op.path) :
    (step s op).files q = s.files q := by
  cases op <;> simp only [Op.path] at h <;> simp only [step, sourceInput] <;> (try split) <;>
    simp only [upd_other _ _ _ _ h]

theorem step_overlay (s : State) (op : Op) :
    overlayOf (step s op) = match op with
      | .setOverlay p t => upd (overlayOf s) p (some t)
      | .clearOverlay p => upd (overlayOf s) p none
      | _ => overlayOf s := by
  funext q
  by_cases hqp : q = op.path
  · subst hqp
    cases op <;> simp only [Op.path, overlayOf, step, sourceInput, upd_same] <;>
      first | rfl | (cases hf : s.files _ <;> simp [hf])
  · have h : overlayOf (step s op) q = overlayOf s q := by
      simp only [overlayOf, step_files_other s op hqp]
    cases op <;> first | exact h | exact h.trans (upd_other _ _ _ _ hqp).symm

theorem overlayOf_run (h : List Op) (s : State) (p : Path) :
    overlayOf (run s h) p = specOv (overlayOf s) h p := by
  induction h generalizing s with
  | nil => rfl
  | cons op r ih => rw [run_cons, ih, step_overlay]; cases op <;> rfl

/-- The input at an operation's own path afterwards: its disk text is read now, or - not for
`refresh_disk` and `clear_overlay` - it is that of the input that was there. -/
theorem step_disk (s : State) (op : Op) {i : Input} (h : (step s op).files op.path = some i) :
    i.disk = s.fs op.path ∨ ∃ j, s.files op.path = some j ∧ i.disk = j.disk ∧
      op ≠ .refreshDisk op.path ∧ op ≠ .clearOverlay op.path := by
  cases op with
  | setOverlay p t =>
    simp only [step, Op.path, upd_same, Option.some.injEq] at h
    subst h
    cases hf : s.files p with
    | none => exact .inl rfl
    | some j => exact .inr ⟨j, hf, rfl, nofun, nofun⟩
  | clearOverlay p =>
    simp only [step, Op.path] at h
    split at h
    · simp only [upd_same, Option.some.injEq] at h; subst h; exact .inl rfl
    · next hf => rw [hf] at h; cases h
  | refreshDisk p =>
    simp only [step, sourceInput, Op.path] at h
    split at h <;> simp only [upd_same, Option.some.injEq] at h <;> subst h <;> exact .inl rfl
  | lookup p =>
    simp only [step, sourceInput, Op.path] at h
    split at h
    · exact .inr ⟨i, h, rfl, nofun, nofun⟩
    · simp only [upd_same, Option.some.injEq] at h; subst h; exact .inl rfl
  | write | delete => exact .inr ⟨i, h, rfl, nofun, nofun⟩

/-- Every known input's disk text is the current disk contents, except possibly for the one
path whose `refresh_disk` is due. -/
def SyncedExcept (s : State) (pend : Option Path) : Prop :=
  ∀ (p : Path) (i : Input), s.files p = some i → some p ≠ pend → i.disk = s.fs p

theorem synced_init (fs : Path → Option Text) (pend : Option Path) : SyncedExcept (init fs) pend := by
  intro p i h; simp [init] at h

/-- One step of a well-formed history: a pending path is repaired by its `refresh_disk` or
`clear_overlay` (which re-reads the disk of a known path; an unknown one needs no repair), a write
or delete leaves its own path pending, and nothing else reads or changes a disk text. -/
theorem synced_step (s : State) (op : Op) (pend : Option Path) (hs : SyncedExcept s pend)
    (hp : ∀ p, pend = some p → op = .refreshDisk p ∨ op = .clearOverlay p) :
    SyncedExcept (step s op) op.pending := by
  intro q i hq hne
  by_cases hqp : q = op.path
  · subst hqp
    -- a write or delete would leave this path pending
    have hfs : (step s op).fs op.path = s.fs op.path := by
      rw [step_fs]; cases op <;> first | rfl | exact absurd rfl hne
    rw [hfs]
    rcases step_disk s op hq with h | ⟨j, hj, hd, h1, h2⟩
    · exact h
    · exact hd ▸ hs _ j hj fun hc => (hp _ hc.symm).elim h1 h2
  · rw [step_files_other s op hqp] at hq
    rw [step_fs_other s op hqp]
    refine hs q i hq fun hc => ?_
    rcases hp q hc.symm with rfl | rfl <;> exact hqp rfl

theorem synced_run (h : List Op) (s : State) (pend : Option Path) (hs : SyncedExcept s pend)
    (hw : wfAux pend h = true) : SyncedExcept (run s h) none := by
  induction h generalizing s pend with
  | nil =>
    cases pend with
    | none => exact hs
    | some p => cases hw
  | cons op r ih =>
    cases pend with
    | none => exact ih _ _ (synced_step s op none hs nofun) (wfAux_none_cons op r ▸ hw)
    | some p =>
      obtain ⟨hop, hr⟩ := wfAux_some_cons hw
      have := synced_step s op (some p) hs (fun _ h => by cases h; exact hop)
      rcases hop with rfl | rfl <;> exact ih _ none this hr

theorem effective_of_synced (s : State) (hs : SyncedExcept s none) (p : Path) :
    effective s p = (overlayOf s p <|> s.fs p) := by
  simp only [effective, overlayOf]
  cases hf : s.files p with
  | none => simp
  | some i =>
    have := hs p i hf (by simp)
    simp [this]

theorem effective_run (s : State) (hs : SyncedExcept s none) (h : List Op) (hw : WF h = true) (p : Path) :
    effective (run s h) p = (specOv (overlayOf s) h p <|> specFs s.fs h p) := by
  rw [effective_of_synced _ (synced_run h s none hs hw), fs_run, overlayOf_run]

theorem wf_overlays (ovs : List (Path × Text)) : WF (ovOps ovs) = true := by
  induction ovs with
  | nil => rfl
  | cons x r ih => simpa [WF, ovOps, wfAux] using ih

theorem specFs_overlays (fs : Path → Option Text) (ovs : List (Path × Text)) :
    specFs fs (ovOps ovs) = fs := by
  induction ovs with
  | nil => rfl
  | cons x r ih => simpa [ovOps, specFs] using ih

theorem specOv_overlays (ovs : List (Path × Text)) (ov : Path → Option Text) (p : Path) :
    specOv ov (ovOps ovs) p = (overlayIn ovs p <|> ov p) := by
  induction ovs generalizing ov with
  | nil => rfl
  | cons x r ih =>
    obtain ⟨q, t⟩ := x
    show specOv (upd ov q (some t)) (ovOps r) p = _
    rw [ih, overlayIn]
    cases overlayIn r p with
    | some t' => rfl
    | none =>
      by_cases hpq : p = q
      · subst hpq; simp
      · simp [hpq, upd_other _ _ _ _ hpq]

theorem effective_of_fresh (fs : Path → Option Text) (ovs : List (Path × Text)) (p : Path) :
    effective (fresh fs ovs) p = (overlayIn ovs p <|> fs p) := by
  rw [fresh, effective_run _ (synced_init fs none) _ (wf_overlays ovs), specFs_overlays, specOv_overlays]
  cases overlayIn ovs p <;> rfl

theorem wf_filter (h : List Op) (pend : Option Path) (hw : wfAux pend h = true) :
    wfAux pend (h.filter notLookup) = true := by
  induction h generalizing pend with
  | nil => exact hw
  | cons op r ih =>
    cases pend with
    | none =>
      rw [wfAux_none_cons] at hw
      cases op <;> first
        | exact ih _ hw
        | (rw [List.filter_cons_of_pos rfl, wfAux_none_cons]; exact ih _ hw)
    | some p =>
      obtain ⟨hop, hr⟩ := wfAux_some_cons hw
      rcases hop with rfl | rfl <;> simp [List.filter_cons, notLookup, wfAux, ih none hr]

theorem specFs_filter (h : List Op) (fs : Path → Option Text) :
    specFs fs (h.filter notLookup) = specFs fs h := by
  induction h generalizing fs with
  | nil => rfl
  | cons op r ih => cases op <;> simp [List.filter_cons, notLookup, specFs, ih]

theorem specOv_filter (h : List Op) (ov : Path → Option Text) :
    specOv ov (h.filter notLookup) = specOv ov h := by
  induction h generalizing ov with
  | nil => rfl
  | cons op r ih => cases op <;> simp [List.filter_cons, notLookup, specOv, ih]

end ZV.Session
