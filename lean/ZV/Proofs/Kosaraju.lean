/-
C08 — Kosaraju: the fuel always suffices and the labelling is exactly the strongly connected
components, for every hash-map iteration order.

Proof outline.
* Both passes run one search (`search_spec`): enter a node, loop over its unseen successors with one
  unit of fuel less, leave the node. Every call marks a node of the graph, so fuel above the number
  of unmarked nodes is never used up. A pass supplies its order of extension on search states
  (`FExt`, `BExt`) and its leave step.
* Forward pass: the invariant `FInv` says that every edge out of a finished node goes to a visited
  node, and that a finished node which reaches an element `v` of the finish stack is strongly
  connected to `v` or to a node finished after `v`, unless it reaches a node that is visited but
  unfinished.
* Backward pass: the labelled set stays closed under predecessors; a search from the first
  unlabelled stack element therefore only collects nodes strongly connected to it.
-/
import ZV.Proofs.GraphBasics

namespace ZV.Graph

theorem reverse_eq (σ : Sched) (deps : AMap) :
    reverse σ deps = AMap.addAll [] ((σ deps.keys).flatMap fun id =>
      (id, []) :: (σ (deps.query id)).map fun dep => (dep, [id])) := by
  unfold reverse AMap.addAll
  rw [List.foldl_flatMap]
  congr
  funext r id
  rw [List.foldl_cons, List.foldl_map]

theorem mem_query_reverse {σ : Sched} (hσ : σ.Valid) {deps : AMap} {u v : Nat} :
    u ∈ (reverse σ deps).query v ↔ Edge deps u v := by
  rw [reverse_eq, AMap.mem_query_addAll]
  constructor
  · rintro (h | ⟨vs, h, hu⟩)
    · cases h
    · simp only [List.mem_flatMap, List.mem_cons, List.mem_map, Prod.mk.injEq] at h
      obtain ⟨id, _, ⟨rfl, rfl⟩ | ⟨dep, hd, rfl, rfl⟩⟩ := h
      · cases hu
      · rw [List.mem_singleton.mp hu]
        exact hσ.mem_iff.mp hd
  · intro h
    exact Or.inr ⟨[u], List.mem_flatMap.mpr ⟨u, hσ.mem_iff.mpr h.mem_keys,
      List.mem_cons_of_mem _ (List.mem_map.mpr ⟨v, hσ.mem_iff.mpr h, rfl⟩)⟩, List.mem_singleton_self _⟩

theorem Reach.trans {deps : AMap} {u v w : Nat} (h1 : Reach deps u v) (h2 : Reach deps v w) :
    Reach deps u w := by
  induction h1 with
  | refl => exact h2
  | step e _ ih => exact Reach.step e (ih h2)

theorem Reach.single {deps : AMap} {u v : Nat} (h : Edge deps u v) : Reach deps u v :=
  Reach.step h (Reach.refl v)

theorem Reach.snoc {deps : AMap} {u v w : Nat} (h1 : Reach deps u v) (h2 : Edge deps v w) :
    Reach deps u w := h1.trans (Reach.single h2)

theorem Reach.mem_allNodes {deps : AMap} {u v : Nat} (h : Reach deps u v) (hv : v ∈ allNodes deps) :
    u ∈ allNodes deps := by
  cases h with
  | refl => exact hv
  | step e _ => exact e.mem_allNodes_left

theorem SameScc.refl (deps : AMap) (u : Nat) : SameScc deps u u := ⟨Reach.refl u, Reach.refl u⟩

theorem SameScc.symm {deps : AMap} {u v : Nat} (h : SameScc deps u v) : SameScc deps v u := ⟨h.2, h.1⟩

theorem SameScc.trans {deps : AMap} {u v w : Nat} (h1 : SameScc deps u v) (h2 : SameScc deps v w) :
    SameScc deps u w := ⟨h1.1.trans h2.1, h2.2.trans h1.2⟩

theorem SameScc.mem_allNodes {deps : AMap} {u v : Nat} (h : SameScc deps u v) (hu : u ∈ allNodes deps) :
    v ∈ allNodes deps := h.2.mem_allNodes hu

/-- The number of unmarked nodes: every call of a search marks one, so this bounds the fuel in use. -/
def cnt (deps : AMap) (vis : List Nat) : Nat := (allNodes deps).countP (fun x => !vis.contains x)

theorem cnt_mono {deps : AMap} {vis vis' : List Nat} (h : ∀ x, x ∈ vis → x ∈ vis') :
    cnt deps vis' ≤ cnt deps vis :=
  List.countP_mono_left fun x _ => by simpa using fun hx hv => hx (h x hv)

theorem cnt_lt {deps : AMap} {vis vis' : List Nat} {a : Nat} (h : ∀ x, x ∈ vis' ↔ x ∈ vis ∨ x = a)
    (ha : a ∈ allNodes deps) (h1 : a ∉ vis) : cnt deps vis' < cnt deps vis :=
  countP_lt_countP (fun x _ => by simpa using fun hx hv => hx ((h x).2 (Or.inl hv))) ha
    (by simpa using (h a).2 (Or.inr rfl)) (by simpa using h1)

theorem cnt_le_length (deps : AMap) (vis : List Nat) : cnt deps vis ≤ (allNodes deps).length :=
  List.countP_le_length

/-! The depth-first search both passes run. A search state `S` has a visited set `vis` with its test
`seen`. `Ext R st st'` is any order on states, reflexive and transitive, under which `vis` only grows,
and monotone in the predicate `R` that bounds what was added; each pass defines its own. -/

section Search

variable {S : Type} {deps : AMap} (vis : S → List Nat) (seen : S → Nat → Bool)
  (hseen : ∀ st x, seen st x = true ↔ x ∈ vis st)
  (Ext : (Nat → Prop) → S → S → Prop) (refl : ∀ {R} st, Ext R st st)
  (trans : ∀ {R a b c}, Ext R a b → Ext R b c → Ext R a c)
  (mono : ∀ {R a b}, Ext R a b → ∀ x, x ∈ vis a → x ∈ vis b)
  (weaken : ∀ {R R' a b}, Ext R a b → (∀ x, R x → R' x) → Ext R' a b)

include hseen refl trans mono in
theorem visit_loop {R : Nat → Prop} {f : Nat} (dfs : S → Nat → S)
    (IH : ∀ st id, id ∉ vis st → id ∈ allNodes deps → cnt deps (vis st) < f → R id →
      Ext R st (dfs st id) ∧ id ∈ vis (dfs st id))
    (l : List Nat) : ∀ st, (∀ n, n ∈ l → R n ∧ n ∈ allNodes deps) → cnt deps (vis st) < f →
      Ext R st (l.foldl (fun st next => if seen st next then st else dfs st next) st) ∧
      ∀ n, n ∈ l → n ∈ vis (l.foldl (fun st next => if seen st next then st else dfs st next) st) := by
  induction l with
  | nil => exact fun st _ _ => ⟨refl st, nofun⟩
  | cons a l ih =>
    intro st hl hc
    obtain ⟨⟨hR, hA⟩, hl⟩ := List.forall_mem_cons.1 hl
    rw [List.foldl_cons]
    obtain ⟨e1, e2⟩ : Ext R st (if seen st a then st else dfs st a) ∧
        a ∈ vis (if seen st a then st else dfs st a) := by
      split
      · next h => exact ⟨refl st, (hseen st a).1 h⟩
      · next h => exact IH st a (mt (hseen st a).2 h) hA hc hR
    obtain ⟨h1, h2⟩ := ih _ hl (Nat.lt_of_le_of_lt (cnt_mono (mono e1)) hc)
    exact ⟨trans e1 h1, List.forall_mem_cons.2 ⟨mono h1 a e2, h2⟩⟩

include hseen refl trans mono weaken in
theorem search_spec {R : Nat → Nat → Prop} (Rtrans : ∀ {a b c}, R a b → R b c → R a c)
    {succ : Nat → List Nat} (hsucc : ∀ id n, n ∈ succ id → R id n ∧ n ∈ allNodes deps)
    {enter leave : S → Nat → S} (henter : ∀ st id x, x ∈ vis (enter st id) ↔ x ∈ vis st ∨ x = id)
    {dfs : Nat → S → Nat → S}
    (hdfs : ∀ fuel st id, dfs (fuel + 1) st id = leave ((succ id).foldl
      (fun st next => if seen st next then st else dfs fuel st next) (enter st id)) id)
    (hleave : ∀ st id st2, id ∉ vis st → id ∈ allNodes deps → Ext (R id) (enter st id) st2 →
      (∀ n, n ∈ succ id → n ∈ vis st2) → Ext (R id) st (leave st2 id) ∧ id ∈ vis (leave st2 id)) :
    ∀ fuel st id, id ∉ vis st → id ∈ allNodes deps → cnt deps (vis st) < fuel →
      Ext (R id) st (dfs fuel st id) ∧ id ∈ vis (dfs fuel st id) := by
  intro fuel
  induction fuel with
  | zero => exact fun _ _ _ _ hc => absurd hc (Nat.not_lt_zero _)
  | succ fuel ih =>
    intro st id hid hA hc
    rw [hdfs]
    have hc1 : cnt deps (vis (enter st id)) < fuel :=
      Nat.lt_of_lt_of_le (cnt_lt (henter st id) hA hid) (Nat.le_of_lt_succ hc)
    obtain ⟨hext, hvis⟩ := visit_loop vis seen hseen Ext refl trans mono (dfs fuel)
      (fun st' n hn hnA hcn hR => (ih st' n hn hnA hcn).imp_left fun h => weaken h fun _ => Rtrans hR)
      (succ id) (enter st id) (hsucc id) hc1
    exact hleave st id _ hid hA hext hvis

end Search

def Gray (st : Fwd) (g : Nat) : Prop := g ∈ st.visited ∧ g ∉ st.stack

/-- `order`: the stack grows at its head, so the `pre` above an element `v` are the nodes finished
after `v`. A finished node that reaches `v` is strongly connected to `v` or to one of `pre`, unless it
reaches a gray node, one that is visited and not finished. -/
structure FInv (deps : AMap) (st : Fwd) : Prop where
  sub : ∀ x, x ∈ st.stack → x ∈ st.visited
  nodes : ∀ x, x ∈ st.visited → x ∈ allNodes deps
  closed : ∀ x, x ∈ st.stack → ∀ y, Edge deps x y → y ∈ st.visited
  order : ∀ pre v post, st.stack = pre ++ v :: post → ∀ u, u ∈ st.stack → Reach deps u v →
    (∃ u', (u' ∈ pre ∨ u' = v) ∧ SameScc deps u u') ∨ (∃ g, Gray st g ∧ Reach deps u g)

/-- `st'` extends `st` by finished nodes that satisfy `R`; the gray nodes are the same. Carrying the
preservation of `FInv` as a field lets `visit_loop` thread the invariant through. -/
structure FExt (deps : AMap) (R : Nat → Prop) (st st' : Fwd) : Prop where
  fuel : st'.outOfFuel = st.outOfFuel
  mono : ∀ x, x ∈ st.visited → x ∈ st'.visited
  new : ∀ x, x ∈ st'.stack → x ∈ st.stack ∨ R x
  gray : ∀ g, Gray st' g ↔ Gray st g
  inv : FInv deps st → FInv deps st'

theorem FExt.refl {deps : AMap} {R : Nat → Prop} (st : Fwd) : FExt deps R st st :=
  ⟨rfl, fun _ h => h, fun _ h => Or.inl h, fun _ => Iff.rfl, id⟩

theorem FExt.trans {deps : AMap} {R : Nat → Prop} {a b c : Fwd} (h1 : FExt deps R a b)
    (h2 : FExt deps R b c) : FExt deps R a c :=
  ⟨h2.fuel.trans h1.fuel, fun x h => h2.mono x (h1.mono x h),
    fun x h => (h2.new x h).elim (h1.new x) Or.inr, fun g => (h2.gray g).trans (h1.gray g),
    fun h => h2.inv (h1.inv h)⟩

theorem FExt.weaken {deps : AMap} {R R' : Nat → Prop} {a b : Fwd} (h : FExt deps R a b)
    (hR : ∀ x, R x → R' x) : FExt deps R' a b :=
  ⟨h.fuel, h.mono, fun x hx => (h.new x hx).imp_right (hR x), h.gray, h.inv⟩

theorem reach_black {deps : AMap} {st : Fwd}
    (closed : ∀ x, x ∈ st.stack → ∀ y, Edge deps x y → y ∈ st.visited) {u v : Nat}
    (h : Reach deps u v) (hu : u ∈ st.stack) :
    v ∈ st.stack ∨ ∃ g, Gray st g ∧ Reach deps u g := by
  induction h with
  | refl => exact Or.inl hu
  | @step u w v e _ ih =>
    by_cases hw : w ∈ st.stack
    · rcases ih hw with h | ⟨g, hg, hr⟩
      · exact Or.inl h
      · exact Or.inr ⟨g, hg, Reach.step e hr⟩
    · exact Or.inr ⟨w, ⟨closed u hu w e, hw⟩, Reach.single e⟩

theorem gray_push {st : Fwd} {id g : Nat} :
    Gray { st with stack := id :: st.stack } g ↔ g ≠ id ∧ Gray st g := by
  unfold Gray
  rw [List.mem_cons, not_or, and_left_comm]

theorem fwd_leave {deps : AMap} {st st2 : Fwd} {id : Nat} (hid : id ∉ st.visited)
    (hA : id ∈ allNodes deps)
    (hext : FExt deps (Reach deps id) { st with visited := IdSet.insert st.visited id } st2)
    (hsucc : ∀ y, Edge deps id y → y ∈ st2.visited) :
    FExt deps (Reach deps id) st { st2 with stack := id :: st2.stack } := by
  have hold : ∀ x, x ∈ st.visited → x ∈ IdSet.insert st.visited id :=
    fun x hx => IdSet.mem_insert.2 (Or.inl hx)
  have hgray : ∀ g, Gray { st2 with stack := id :: st2.stack } g ↔ Gray st g := by
    intro g
    rw [gray_push, hext.gray g]
    constructor
    · intro ⟨hne, h1, h2⟩
      exact ⟨(IdSet.mem_insert.1 h1).resolve_right hne, h2⟩
    · intro ⟨h1, h2⟩
      exact ⟨fun e => hid (e ▸ h1), hold g h1, h2⟩
  refine ⟨hext.fuel, fun x hx => hext.mono x (hold x hx),
    List.forall_mem_cons.2 ⟨Or.inr (Reach.refl _), hext.new⟩, hgray, fun hst => ?_⟩
  have hst2 : FInv deps st2 := by
    refine hext.inv ⟨fun x hx => hold x (hst.sub x hx),
      fun x hx => (IdSet.mem_insert.1 hx).elim (hst.nodes x) (· ▸ hA),
      fun x hx y e => hold y (hst.closed x hx y e), fun pre v post hs u hu hr => ?_⟩
    exact (hst.order pre v post hs u hu hr).imp_right
      fun ⟨g, hg, hgr⟩ => ⟨g, ⟨hold g hg.1, hg.2⟩, hgr⟩
  -- A finished node that reaches `id` was finished after `id` was entered, hence is reachable from
  -- `id`; or before, and then its path to `id` leaves the nodes finished by then through a gray one.
  have H : ∀ u, u ∈ st2.stack → Reach deps u id →
      SameScc deps u id ∨ ∃ g, Gray { st2 with stack := id :: st2.stack } g ∧ Reach deps u g := by
    intro u hu hr
    rcases hext.new u hu with hu | hiu
    · rcases reach_black hst.closed hr hu with h | ⟨g, hg, hgr⟩
      · exact absurd (hst.sub id h) hid
      · exact Or.inr ⟨g, (hgray g).2 hg, hgr⟩
    · exact Or.inl ⟨hr, hiu⟩
  refine ⟨List.forall_mem_cons.2 ⟨hext.mono id (IdSet.mem_insert.2 (Or.inr rfl)), hst2.sub⟩,
    hst2.nodes, List.forall_mem_cons.2 ⟨hsucc, hst2.closed⟩, fun pre v post hs u hu hr => ?_⟩
  rcases List.cons_eq_append_iff.1 hs with ⟨rfl, hv⟩ | ⟨pre2, rfl, hrest⟩
  · cases hv
    rcases List.mem_cons.1 hu with rfl | hu2
    · exact Or.inl ⟨_, Or.inr rfl, SameScc.refl _ _⟩
    · exact (H u hu2 hr).imp_left fun h => ⟨_, Or.inr rfl, h⟩
  · rcases List.mem_cons.1 hu with rfl | hu2
    · exact Or.inl ⟨_, Or.inl List.mem_cons_self, SameScc.refl _ _⟩
    · rcases hst2.order pre2 v post hrest u hu2 hr with ⟨u', hu', hs'⟩ | ⟨g, hg, hgr⟩
      · exact Or.inl ⟨u', hu'.imp_left (List.mem_cons_of_mem _), hs'⟩
      · by_cases hgi : g = id
        · rw [hgi] at hgr
          exact (H u hu2 hgr).imp_left fun h => ⟨_, Or.inl List.mem_cons_self, h⟩
        · exact Or.inr ⟨g, gray_push.2 ⟨hgi, hg⟩, hgr⟩

theorem dfsForward_spec {σ : Sched} (hσ : σ.Valid) (deps : AMap) :
    ∀ fuel st id, id ∉ st.visited → id ∈ allNodes deps → cnt deps st.visited < fuel →
      FExt deps (Reach deps id) st (dfsForward σ deps fuel st id) ∧
        id ∈ (dfsForward σ deps fuel st id).visited :=
  search_spec Fwd.visited (fun st x => st.visited.contains x) (fun _ _ => List.contains_iff_mem)
    (FExt deps) FExt.refl FExt.trans FExt.mono FExt.weaken (R := Reach deps) Reach.trans
    (succ := fun id => σ (deps.query id))
    (fun _ _ hn => ⟨Reach.single (hσ.mem_iff.1 hn), Edge.mem_allNodes_right (hσ.mem_iff.1 hn)⟩)
    (enter := fun st id => { st with visited := IdSet.insert st.visited id })
    (leave := fun st id => { st with stack := id :: st.stack })
    (fun _ _ _ => IdSet.mem_insert) (fun _ _ _ => rfl)
    (fun _ id _ hid hA hext hvis => ⟨fwd_leave hid hA hext fun y e => hvis y (hσ.mem_iff.2 e),
      hext.mono id (IdSet.mem_insert.2 (Or.inr rfl))⟩)

def fwdRun (σ : Sched) (deps : AMap) : Fwd :=
  (σ deps.keys).foldl
    (fun st id =>
      if st.visited.contains id then st else dfsForward σ deps ((allNodes deps).length + 1) st id)
    ({} : Fwd)

theorem fwdRun_spec {σ : Sched} (hσ : σ.Valid) {deps : AMap} (hk : deps.keys.Nodup) :
    (fwdRun σ deps).outOfFuel = false ∧
    (∀ x, x ∈ (fwdRun σ deps).stack ↔ x ∈ allNodes deps) ∧
    (∀ pre r post, (fwdRun σ deps).stack = pre ++ r :: post → ∀ x, x ∈ allNodes deps →
      Reach deps x r → ∃ x', (x' ∈ pre ∨ x' = r) ∧ SameScc deps x x') := by
  obtain ⟨hext, hvis⟩ := visit_loop Fwd.visited (fun st x => st.visited.contains x)
    (fun _ _ => List.contains_iff_mem) (FExt deps) FExt.refl FExt.trans FExt.mono
    (R := fun _ => True) (dfsForward σ deps ((allNodes deps).length + 1))
    (fun st' n hn hnA hcn _ =>
      (dfsForward_spec hσ deps _ st' n hn hnA hcn).imp_left fun h => h.weaken fun _ _ => trivial)
    (σ deps.keys) ({} : Fwd)
    (fun n hn => ⟨trivial, mem_allNodes_of_mem_keys (hσ.mem_iff.1 hn)⟩)
    (Nat.lt_succ_of_le (cnt_le_length _ _))
  have hinv : FInv deps (fwdRun σ deps) := hext.inv ⟨nofun, nofun, nofun, nofun⟩
  have hnogray : ∀ x, x ∈ (fwdRun σ deps).visited → x ∈ (fwdRun σ deps).stack :=
    fun x hx => Decidable.byContradiction fun h => List.not_mem_nil ((hext.gray x).1 ⟨hx, h⟩).1
  have hall : ∀ x, x ∈ (fwdRun σ deps).stack ↔ x ∈ allNodes deps := by
    intro x
    refine ⟨fun hx => hinv.nodes x (hinv.sub x hx), fun hx => ?_⟩
    rcases (mem_allNodes_iff hk).mp hx with h | ⟨k, he⟩
    · exact hnogray x (hvis x (hσ.mem_iff.2 h))
    · exact hnogray x (hinv.closed k (hnogray k (hvis k (hσ.mem_iff.2 he.mem_keys))) x he)
  refine ⟨hext.fuel, hall, ?_⟩
  intro pre r post hs x hx hxr
  exact (hinv.order pre r post hs x ((hall x).2 hx) hxr).resolve_right
    fun ⟨g, hg, _⟩ => hg.2 (hnogray g hg.1)

def Bwd.keys (st : Bwd) : List Nat := st.belongs.map (·.1)

theorem Bwd.has_iff {st : Bwd} {id : Nat} : st.has id = true ↔ id ∈ st.keys := by
  unfold Bwd.has Bwd.keys
  simp only [List.any_eq_true, List.mem_map, beq_iff_eq]

theorem Bwd.mem_keys {st : Bwd} {x : Nat} : x ∈ st.keys ↔ ∃ c, (x, c) ∈ st.belongs := by
  simp [Bwd.keys]

theorem Bwd.keys_push (st : Bwd) (id idx : Nat) :
    Bwd.keys { st with belongs := st.belongs ++ [(id, idx)] } = st.keys ++ [id] :=
  List.map_append

theorem Bwd.mem_keys_push {st : Bwd} {id idx x : Nat} :
    x ∈ Bwd.keys { st with belongs := st.belongs ++ [(id, idx)] } ↔ x ∈ st.keys ∨ x = id := by
  rw [Bwd.keys_push, List.mem_append, List.mem_singleton]

/-- `st'` extends `st` by nodes labelled `idx` that satisfy `R`. That the predecessors are labelled
is recorded per new node and against `st'`: of the labelled set as a whole it fails while a search
is under way. `nodup` rides along as `inv` does in `FExt`. -/
structure BExt (deps : AMap) (idx : Nat) (R : Nat → Prop) (st st' : Bwd) : Prop where
  fuel : st'.outOfFuel = st.outOfFuel
  mono : ∀ x, x ∈ st.keys → x ∈ st'.keys
  new : ∀ x c, (x, c) ∈ st'.belongs → (x, c) ∈ st.belongs ∨
    (c = idx ∧ R x ∧ x ∉ st.keys ∧ ∀ y, Edge deps y x → y ∈ st'.keys)
  nodup : st.keys.Nodup → st'.keys.Nodup

theorem BExt.refl {deps : AMap} {idx : Nat} {R : Nat → Prop} (st : Bwd) : BExt deps idx R st st :=
  ⟨rfl, fun _ h => h, fun _ _ h => Or.inl h, id⟩

theorem BExt.trans {deps : AMap} {idx : Nat} {R : Nat → Prop} {a b c : Bwd}
    (h1 : BExt deps idx R a b) (h2 : BExt deps idx R b c) : BExt deps idx R a c := by
  refine ⟨h2.fuel.trans h1.fuel, fun x h => h2.mono x (h1.mono x h), ?_, fun h => h2.nodup (h1.nodup h)⟩
  intro x l hx
  rcases h2.new x l hx with h | ⟨hl, hR, hk, hcl⟩
  · exact (h1.new x l h).imp_right fun ⟨hl, hR, hk, hcl⟩ => ⟨hl, hR, hk, fun y e => h2.mono y (hcl y e)⟩
  · exact Or.inr ⟨hl, hR, fun h => hk (h1.mono x h), hcl⟩

theorem BExt.weaken {deps : AMap} {idx : Nat} {R R' : Nat → Prop} {a b : Bwd}
    (h : BExt deps idx R a b) (hR : ∀ x, R x → R' x) : BExt deps idx R' a b :=
  ⟨h.fuel, h.mono, fun x c hx => (h.new x c hx).imp_right fun ⟨hc, h1, h2⟩ => ⟨hc, hR x h1, h2⟩,
    h.nodup⟩

theorem dfsBackward_spec {σ : Sched} (hσ : σ.Valid) (deps : AMap) (idx : Nat) :
    ∀ fuel st id, id ∉ st.keys → id ∈ allNodes deps → cnt deps st.keys < fuel →
      BExt deps idx (fun x => Reach deps x id) st (dfsBackward σ (reverse σ deps) idx fuel st id) ∧
        id ∈ (dfsBackward σ (reverse σ deps) idx fuel st id).keys := by
  have hpred : ∀ {id n}, n ∈ σ ((reverse σ deps).query id) ↔ Edge deps n id :=
    hσ.mem_iff.trans (mem_query_reverse hσ)
  refine search_spec Bwd.keys Bwd.has (fun _ _ => Bwd.has_iff) (BExt deps idx) BExt.refl BExt.trans
    BExt.mono BExt.weaken (R := fun id x => Reach deps x id) (fun h1 h2 => h2.trans h1)
    (succ := fun id => σ ((reverse σ deps).query id))
    (fun _ _ hn => ⟨Reach.single (hpred.1 hn), Edge.mem_allNodes_left (hpred.1 hn)⟩)
    (enter := fun st id => { st with belongs := st.belongs ++ [(id, idx)] }) (leave := fun st _ => st)
    (fun _ _ _ => Bwd.mem_keys_push) (fun _ _ _ => rfl) ?_
  intro st id st2 hid _ hext hvis
  refine ⟨⟨hext.fuel, fun x hx => hext.mono x (Bwd.mem_keys_push.2 (Or.inl hx)), ?_, ?_⟩,
    hext.mono id (Bwd.mem_keys_push.2 (Or.inr rfl))⟩
  · intro x c hx
    rcases hext.new x c hx with h | ⟨hc, hR, hx, hcl⟩
    · rcases List.mem_append.1 h with h | h
      · exact Or.inl h
      · cases List.mem_singleton.1 h
        exact Or.inr ⟨rfl, Reach.refl _, hid, fun y e => hvis y (hpred.2 e)⟩
    · exact Or.inr ⟨hc, hR, fun h => hx (Bwd.mem_keys_push.2 (Or.inl h)), hcl⟩
  · intro hnd
    apply hext.nodup
    rw [Bwd.keys_push]
    exact nodup_append_singleton.2 ⟨hid, hnd⟩

def bwdStep (σ : Sched) (deps : AMap) (st : Bwd × Nat) (id : Nat) : Bwd × Nat :=
  if st.1.has id then st
  else (dfsBackward σ (reverse σ deps) st.2 ((allNodes deps).length + 1) st.1 id, st.2 + 1)

def bwdRun (σ : Sched) (deps : AMap) : Bwd × Nat :=
  (fwdRun σ deps).stack.foldl (bwdStep σ deps) (({} : Bwd), 0)

/-- Invariant of the loop over the finish stack; `pre` is the processed prefix. -/
structure BInv (deps : AMap) (pre : List Nat) (st : Bwd × Nat) : Prop where
  fuel : st.1.outOfFuel = false
  nodup : st.1.keys.Nodup
  nodes : ∀ x, x ∈ st.1.keys → x ∈ allNodes deps
  done : ∀ x, x ∈ pre → x ∈ st.1.keys
  closed : ∀ y, y ∈ st.1.keys → ∀ x, Edge deps x y → x ∈ st.1.keys
  lt : ∀ e, e ∈ st.1.belongs → e.2 < st.2
  scc : ∀ e1, e1 ∈ st.1.belongs → ∀ e2, e2 ∈ st.1.belongs →
    (e1.2 = e2.2 ↔ SameScc deps e1.1 e2.1)

theorem closed_reach {deps : AMap} {L : List Nat}
    (closed : ∀ y, y ∈ L → ∀ x, Edge deps x y → x ∈ L) {x y : Nat} (h : Reach deps x y)
    (hy : y ∈ L) : x ∈ L := by
  induction h with
  | refl => exact hy
  | @step u w v e _ ih => exact closed w (ih hy) u e

/-- The search from the first unlabelled stack element `r` labels exactly its component: what it
reaches backwards and is unlabelled has, by `hK`, a strongly connected node at or before `r` in the
stack, and that node cannot be labelled, the labelled set being closed under predecessors. -/
theorem binv_call {σ : Sched} (hσ : σ.Valid) {deps : AMap} {pre : List Nat} {st : Bwd × Nat} {r : Nat}
    (h : BInv deps pre st) (hr : r ∉ st.1.keys) (hrA : r ∈ allNodes deps)
    (hK : ∀ x, x ∈ allNodes deps → Reach deps x r → ∃ x', (x' ∈ pre ∨ x' = r) ∧ SameScc deps x x') :
    BInv deps (pre ++ [r])
      (dfsBackward σ (reverse σ deps) st.2 ((allNodes deps).length + 1) st.1 r, st.2 + 1) := by
  obtain ⟨hext, hrk⟩ := dfsBackward_spec hσ deps st.2 ((allNodes deps).length + 1) st.1 r hr hrA
    (Nat.lt_succ_of_le (cnt_le_length _ _))
  generalize dfsBackward σ (reverse σ deps) st.2 ((allNodes deps).length + 1) st.1 r = b' at hext hrk
  have hsame : ∀ x, Reach deps x r → x ∉ st.1.keys → SameScc deps x r := by
    intro x hxr hxk
    obtain ⟨x', hx', hs⟩ := hK x (hxr.mem_allNodes hrA) hxr
    rcases hx' with hx' | rfl
    · exact absurd (closed_reach h.closed hs.1 (h.done x' hx')) hxk
    · exact hs
  have hdiff : ∀ {x c y}, (x, c) ∈ st.1.belongs → y ∉ st.1.keys → (c = st.2 ↔ SameScc deps x y) := by
    intro x c y hx hy
    refine iff_of_false (Nat.ne_of_lt (h.lt (x, c) hx)) fun hs => hy ?_
    exact closed_reach h.closed hs.2 (Bwd.mem_keys.2 ⟨c, hx⟩)
  refine ⟨hext.fuel.trans h.fuel, hext.nodup h.nodup, ?_, ?_, ?_, ?_, ?_⟩
  · intro x hx
    obtain ⟨c, hc⟩ := Bwd.mem_keys.1 hx
    rcases hext.new x c hc with hc | ⟨_, hxr, _⟩
    · exact h.nodes x (Bwd.mem_keys.2 ⟨c, hc⟩)
    · exact hxr.mem_allNodes hrA
  · exact List.forall_mem_append.2
      ⟨fun x hx => hext.mono x (h.done x hx), List.forall_mem_singleton.2 hrk⟩
  · intro y hy x e
    obtain ⟨c, hc⟩ := Bwd.mem_keys.1 hy
    rcases hext.new y c hc with hc | ⟨_, _, _, hcl⟩
    · exact hext.mono x (h.closed y (Bwd.mem_keys.2 ⟨c, hc⟩) x e)
    · exact hcl x e
  · intro ⟨x, c⟩ hx
    rcases hext.new x c hx with hx | ⟨hc, _⟩
    · exact Nat.lt_succ_of_lt (h.lt (x, c) hx)
    · exact hc ▸ Nat.lt_succ_self _
  · intro ⟨x, c⟩ hx ⟨y, d⟩ hy
    rcases hext.new x c hx with hx | ⟨rfl, hxr, hxk, _⟩
    · rcases hext.new y d hy with hy | ⟨rfl, _, hyk, _⟩
      · exact h.scc (x, c) hx (y, d) hy
      · exact hdiff hx hyk
    · rcases hext.new y d hy with hy | ⟨rfl, hyr, hyk, _⟩
      · exact eq_comm.trans ((hdiff hy hxk).trans ⟨SameScc.symm, SameScc.symm⟩)
      · exact iff_of_true rfl ((hsame x hxr hxk).trans (hsame y hyr hyk).symm)

theorem bwdRun_spec {σ : Sched} (hσ : σ.Valid) {deps : AMap} (hk : deps.keys.Nodup) :
    BInv deps (fwdRun σ deps).stack (bwdRun σ deps) := by
  obtain ⟨_, hall, hK⟩ := fwdRun_spec hσ hk
  unfold bwdRun
  generalize (fwdRun σ deps).stack = S at hall hK ⊢
  suffices h : ∀ post pre st, S = pre ++ post → BInv deps pre st →
      BInv deps S (post.foldl (bwdStep σ deps) st) from
    h S [] _ rfl ⟨rfl, List.nodup_nil, nofun, nofun, nofun, nofun, nofun⟩
  intro post
  induction post with
  | nil =>
    intro pre st hs h
    rwa [hs, List.append_nil]
  | cons r post ih =>
    intro pre st hs h
    rw [List.foldl_cons]
    apply ih (pre ++ [r]) _ (by rw [hs, List.append_assoc, List.singleton_append])
    unfold bwdStep
    by_cases hr : r ∈ st.1.keys
    · rw [if_pos (Bwd.has_iff.2 hr)]
      exact { h with done := List.forall_mem_append.2 ⟨h.done, List.forall_mem_singleton.2 hr⟩ }
    · rw [if_neg (mt Bwd.has_iff.1 hr)]
      exact binv_call hσ h hr ((hall r).1 (hs ▸ List.mem_append_right _ List.mem_cons_self))
        (hK pre r post hs)

theorem kosarajuBelongs_eq (σ : Sched) (deps : AMap) :
    kosarajuBelongs σ deps =
      if (fwdRun σ deps).outOfFuel then .error "fuel"
      else if (bwdRun σ deps).1.outOfFuel then .error "fuel"
      else .ok (bwdRun σ deps).1.belongs := rfl

theorem kosaraju_master {σ : Sched} (hσ : σ.Valid) {deps : AMap} (hk : deps.keys.Nodup) :
    ∃ b, kosarajuBelongs σ deps = .ok b ∧ IsSccLabeling deps b := by
  obtain ⟨hfuel, hall, _⟩ := fwdRun_spec hσ hk
  have hinv := bwdRun_spec hσ hk
  refine ⟨_, ?_, hinv.nodup, ?_, ?_⟩
  · rw [kosarajuBelongs_eq, hfuel, hinv.fuel]
    rfl
  · intro u
    rw [lookup_isSome]
    exact ⟨fun hu => hinv.done u ((hall u).2 hu), hinv.nodes u⟩
  · intro u v cu cv hu hv
    exact hinv.scc (u, cu) (lookup_mem hu) (v, cv) (lookup_mem hv)

end ZV.Graph
