/-
The revisioned memo table (`ZV/Model/Memo.lean`): every cached result is the from-scratch answer on
inputs that agree with the current ones wherever they have not changed since it was verified (`Inv`),
so a query that passes the validity test, or recomputes, answers right (`query_spec`).
-/
import ZV.Model.Memo

set_option linter.unusedSectionVars false

namespace ZV.Memo

section
variable {K V R Q : Type} [DecidableEq K] [DecidableEq V] [DecidableEq Q]
variable (compute : Q → (K → V) → List K × R)

/-- A cached result was verified at a past or the present revision and is the from-scratch
answer on some input assignment that agrees with the current one on every input unchanged since
that verification. -/
def EntryOk (db : Db K V R Q) (q : Q) (e : Entry K R) : Prop :=
  e.verifiedAt ≤ db.rev ∧
  ∃ old : K → V, compute q old = (e.deps, e.result) ∧
    ∀ k, (db.inputs k).changedAt ≤ e.verifiedAt → old k = values db k

def Inv (db : Db K V R Q) : Prop :=
  (∀ k, (db.inputs k).changedAt ≤ db.rev) ∧
  ∀ (q : Q) (e : Entry K R), db.cache q = some e → EntryOk compute db q e

variable {compute}

theorem inv_init (v0 : K → V) : Inv compute (init v0 : Db K V R Q) :=
  ⟨fun _ => Nat.le_refl _, nofun⟩

theorem inv_set (db : Db K V R Q) (k : K) (v : V)
    (hi : Inv compute db) : Inv compute (set db k v) := by
  unfold set
  split
  · exact hi
  · refine ⟨fun k' => ?_, fun q e he => ?_⟩
    · simp only []
      split
      · exact Nat.le_refl _
      · exact Nat.le_succ_of_le (hi.1 k')
    · obtain ⟨hv, old, hc, hag⟩ := hi.2 q e he
      refine ⟨Nat.le_succ_of_le hv, old, hc, fun k' hk' => ?_⟩
      simp only [values] at hk' ⊢
      by_cases hkk : k' = k
      · -- the changed input is stamped after every verification so far
        subst hkk
        simp only [if_true] at hk'
        exact absurd (Nat.le_trans hk' hv) (Nat.not_succ_le_self _)
      · simp only [hkk, if_false] at hk' ⊢
        exact hag k' hk'

theorem inv_evict (db : Db K V R Q) (q : Q)
    (hi : Inv compute db) : Inv compute (evict db q) := by
  refine ⟨hi.1, fun q' e he => ?_⟩
  simp only [evict] at he
  split at he
  · cases he
  · exact hi.2 q' e he

theorem entryOk_now (db : Db K V R Q) (q : Q) {deps : List K} {result : R}
    (he : compute q (values db) = (deps, result)) : EntryOk compute db q ⟨db.rev, deps, result⟩ :=
  ⟨Nat.le_refl _, values db, he, fun _ _ => rfl⟩

theorem inv_store (db : Db K V R Q) (q : Q) (e : Entry K R)
    (hi : Inv compute db) (he : EntryOk compute db q e) : Inv compute (store db q e) := by
  refine ⟨hi.1, fun q' e' he' => ?_⟩
  simp only [store] at he'
  split at he'
  · next hq => cases he'; exact hq ▸ he
  · exact hi.2 q' e' he'

theorem query_spec (hr : ReadsRecorded compute)
    (db : Db K V R Q) (q : Q) (hi : Inv compute db) :
    (query compute db q).1 = (compute q (values db)).2 ∧ Inv compute (query compute db q).2 := by
  have hrec : (recompute compute db q).1 = (compute q (values db)).2 ∧
      Inv compute (recompute compute db q).2 :=
    ⟨rfl, inv_store db q _ hi (entryOk_now db q rfl)⟩
  unfold query
  cases hc : db.cache q with
  | none => exact hrec
  | some e =>
    simp only []
    split
    · next hall =>
      -- the cached result was computed on `old`, which agrees with the current values on
      -- every recorded input, so it is the from-scratch answer now
      obtain ⟨_, old, hcomp, hag⟩ := hi.2 q e hc
      have hsame : compute q (values db) = (e.deps, e.result) := by
        rw [← hcomp]
        refine hr q old (values db) fun k hk => hag k ?_
        rw [hcomp] at hk
        simpa using List.all_eq_true.mp hall k hk
      exact ⟨by rw [hsame], inv_store db q _ hi (entryOk_now db q hsame)⟩
    · exact hrec

theorem inv_step (hr : ReadsRecorded compute)
    (db : Db K V R Q) (op : Op K V Q) (hi : Inv compute db) : Inv compute (step compute db op) := by
  cases op with
  | set k v => exact inv_set db k v hi
  | query q => exact (query_spec hr db q hi).2
  | evict q => exact inv_evict db q hi

theorem inv_run (hr : ReadsRecorded compute) (h : List (Op K V Q)) (db : Db K V R Q)
    (hi : Inv compute db) : Inv compute (run compute db h) :=
  List.foldlRecOn h _ hi fun db hdb op _ => inv_step hr db op hdb

theorem values_set (db : Db K V R Q) (k : K) (v : V) :
    values (set db k v) = fun k' => if k' = k then v else values db k' := by
  funext k'
  unfold set
  split
  · next h =>
    split
    · next hk => rw [hk]; exact h
    · rfl
  · simp only [values]; split <;> rfl

theorem values_query (db : Db K V R Q) (q : Q) :
    values (query compute db q).2 = values db := by
  unfold query
  cases db.cache q with
  | none => rfl
  | some e => simp only []; split <;> rfl

theorem values_run (h : List (Op K V Q)) (db : Db K V R Q) :
    values (run compute db h) = specValues (values db) h := by
  induction h generalizing db with
  | nil => rfl
  | cons op r ih =>
    show values (run compute (step compute db op) r) = _
    rw [ih]
    cases op with
    | set k v => simp only [step, specValues, values_set]
    | query q => simp only [step, specValues, values_query]
    | evict q => rfl

end
end ZV.Memo
