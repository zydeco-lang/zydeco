/-
C08 — the context order (`contextOrder` of `ZV/Model/Graph.lean`): validity and independence of the
iteration order.
-/
import ZV.Proofs.FromBindings

namespace ZV.Graph

section
variable {σ : Sched} (hσ : σ.Valid) {G : AMap} {b : List (Nat × Nat)} (hb : IsSccLabeling G b)
  {gone : List Nat} {t : Scc} (hinv : Scc.Inv G b gone t)
include hσ hb hinv

theorem Scc.Inv.top_lvl {k : Nat} (hk : ∀ n, n ∈ gone ↔ Lvl G k n) (u : Nat) :
    u ∈ (t.top σ).flatMap id ↔ AtLvl G k u := by
  rw [hinv.mem_offer hσ]
  constructor
  · rintro ⟨hug, c, huc, hroot⟩
    have hua : u ∈ allNodes G := hb.mem_allNodes huc
    refine ⟨⟨hua, fun u' v hs he hn => ?_⟩, fun hl => hug ((hk u).mpr hl)⟩
    obtain ⟨c', hc'⟩ := hb.exists_label (hs.mem_allNodes hua)
    cases (hb.eq_iff huc hc').mpr hs
    exact (hk v).mp (hb.mem_gone_of_depsGone hc' hroot he hn)
  · rintro ⟨⟨hall, hsucc⟩, hnot⟩
    obtain ⟨c, hc⟩ := hb.exists_label hall
    refine ⟨fun h => hnot ((hk u).mp h), c, hc, ?_⟩
    rintro d ⟨hne, u', v', hu', hv', he⟩ ⟨w, hw, hwg⟩
    have hn : ¬ SameScc G u' v' := fun h => hne ((hb.eq_iff hu' hv').mpr h)
    -- `v'` is of level `k`, and so is `w`, which lies in the same component
    exact hwg ((hk w).mpr ((hsucc u' v' (hb.sameScc hc hu') he hn).of_sameScc (hb.sameScc hv' hw)))

theorem Ctx.ready_spec (hsing : ∀ n m, SameScc G n m → n = m) (bindings : List (Nat × Nat)) (c : Ctx) :
    c.ready σ bindings t = .ok (sortByKey (c.nodeOrder bindings) ((t.top σ).flatMap id)) := by
  have hsingle : ∀ grp ∈ t.top σ, [grp.headD 0] = grp := by
    intro grp hgrp
    obtain ⟨c, hc, _, _, hnd⟩ := hinv.of_mem_top hσ hgrp
    match grp, hinv.ne_nil_of_mem_top hσ hgrp, hnd, hc with
    | [x], _, _, _ => rfl
    | x :: y :: rest, _, hnd, hc =>
      have hx := ((hc x).mp List.mem_cons_self).1
      have hy := ((hc y).mp (List.mem_cons_of_mem _ List.mem_cons_self)).1
      cases hsing x y (hb.sameScc hx hy)
      exact absurd List.mem_cons_self (List.nodup_cons.mp hnd).1
  have hflat : (t.top σ).map (·.headD 0) = (t.top σ).flatMap id := by
    rw [List.map_eq_flatMap, List.flatMap_def, List.flatMap_def, List.map_congr_left hsingle]
    rfl
  unfold Ctx.ready
  rw [mapM_eq_ok (fun grp => grp.headD 0), hflat]
  · rfl
  · intro grp hgrp
    rw [← hsingle grp hgrp]
    rfl

end

/-- The order in which the loop emits ids: by level, then by key. -/
def BeforeBy (G : AMap) (key : Nat → Nat) (n m : Nat) : Prop :=
  ∃ k k', AtLvl G k n ∧ AtLvl G k' m ∧ (k < k' ∨ (k = k' ∧ key n < key m))

theorem topo_spec {σ : Sched} (hσ : σ.Valid) {G : AMap} {b : List (Nat × Nat)}
    (hb : IsSccLabeling G b) (hsing : ∀ n m, SameScc G n m → n = m)
    (bindings : List (Nat × Nat)) (c : Ctx)
    (hkey : ∀ n m, n ∈ allNodes G → m ∈ allNodes G →
      c.nodeOrder bindings n = c.nodeOrder bindings m → n = m) :
    ∀ (fuel : Nat) (t : Scc) (out gone : List Nat) (k : Nat),
      Scc.Inv G b gone t → (∀ n, n ∈ gone ↔ Lvl G k n) → (∀ n, n ∈ out ↔ Lvl G k n) →
      out.Pairwise (BeforeBy G (c.nodeOrder bindings)) →
      (b.length - gone.length) + 1 ≤ fuel →
      ∃ order, c.topoLoop σ bindings fuel t out = .ok order ∧
        (∀ n, n ∈ order ↔ n ∈ allNodes G) ∧ order.Pairwise (BeforeBy G (c.nodeOrder bindings)) := by
  intro fuel
  induction fuel with
  | zero =>
    intro t out gone k _ _ _ _ h
    exact absurd h (Nat.not_succ_le_zero _)
  | succ fuel ih =>
    intro t out gone k hinv hk hout hpw hfuel
    have hperm := sortByKey_perm (c.nodeOrder bindings) ((t.top σ).flatMap id)
    have hstrict := sortByKey_strict (c.nodeOrder bindings) ((t.top σ).flatMap id) (hinv.top_nodup hσ)
      fun a ha a' ha' => hkey a a' ((hinv.top_lvl hσ hb hk a).mp ha).1.mem_allNodes
        ((hinv.top_lvl hσ hb hk a').mp ha').1.mem_allNodes
    rw [Ctx.topoLoop, Ctx.ready_spec hσ hb hinv hsing]
    generalize sortByKey (c.nodeOrder bindings) ((t.top σ).flatMap id) = ready at hperm hstrict
    have hat : ∀ n, n ∈ ready ↔ AtLvl G k n := fun n =>
      hperm.mem_iff.trans (hinv.top_lvl hσ hb hk n)
    simp only [bind, Except.bind]
    cases ready with
    | nil =>
      refine ⟨out, rfl, fun n => (hout n).trans ⟨Lvl.mem_allNodes, fun hn => ?_⟩, hpw⟩
      -- nothing is on offer, so no component is alive
      obtain ⟨c', hc'⟩ := hb.exists_label hn
      refine (hk n).mp (Classical.byContradiction fun hng => ?_)
      obtain ⟨u, hu⟩ := hinv.exists_offer hσ hb ⟨n, hc', hng⟩
      exact absurd (hperm.mem_iff.mpr hu) List.not_mem_nil
    | cons r ready =>
      rw [if_neg (by simp)]
      obtain ⟨t', hrel, hinv', hlen⟩ := hinv.round hσ hperm
      rw [hrel]
      refine ih t' (out ++ r :: ready) _ (k + 1) hinv' (fun n => ?_) (fun n => ?_) ?_ ?_
      · rw [List.mem_append, List.mem_reverse, hσ.mem_iff, hat, hk, Lvl.succ_iff]
      · rw [List.mem_append, hat, hout, Lvl.succ_iff, or_comm]
      · rw [List.pairwise_append]
        refine ⟨hpw, ?_, ?_⟩
        · exact hstrict.imp_of_mem fun ha hb' h => ⟨k, k, (hat _).mp ha, (hat _).mp hb', Or.inr ⟨rfl, h⟩⟩
        · intro a ha b' hb'
          obtain ⟨j, hj, hja⟩ := ((hout a).mp ha).exists_at
          exact ⟨j, k, hja, (hat b').mp hb', Or.inl hj⟩
      · simp only [List.length_append, List.length_reverse, (hσ _).length_eq, List.length_cons] at hlen ⊢
        omega

/-- Any list of canonical nodes that covers the graph and is sorted by level is a dependency-respecting
decomposition; no iteration order is involved. -/
theorem isDepsFirst_of_canon {deps : AMap} {bindings : List (Nat × Nat)} {L : List Node}
    (hcov : ∀ u ∈ allNodes deps, ∃ nd ∈ L, u ∈ nd.members)
    (hc : ∀ nd ∈ L, Canon deps bindings nd) (hpw : L.Pairwise (NodeBefore deps bindings)) :
    IsDepsFirst deps (L.map (·.members)) := by
  refine ⟨List.pairwise_flatMap.mpr ⟨?_, List.pairwise_map.mpr (hpw.imp_of_mem ?_)⟩,
    fun u => ⟨fun hu => ?_, fun hu => ?_⟩, ?_, ?_⟩
  · intro g hg
    obtain ⟨nd, hnd, rfl⟩ := List.mem_map.mp hg
    exact (hc nd hnd).2.1.imp fun h hab => Nat.ne_of_lt h (congrArg _ hab)
  · intro nd nd' hnd hnd' hbef x hx y hy hxy
    subst hxy
    cases (hc nd hnd).eq_of_common_member (hc nd' hnd') hx hy
    exact NodeBefore.asymm (hc nd hnd) (hc nd hnd) hbef hbef
  · obtain ⟨nd, hnd, hu'⟩ := hcov u hu
    exact List.mem_flatMap.mpr ⟨_, List.mem_map_of_mem hnd, hu'⟩
  · obtain ⟨g, hg, hug⟩ := List.mem_flatMap.mp hu
    obtain ⟨nd, hnd, rfl⟩ := List.mem_map.mp hg
    exact ((hc nd hnd).2.2.1 u hug).1
  · intro g hg
    obtain ⟨nd, hnd, rfl⟩ := List.mem_map.mp hg
    exact ⟨(hc nd hnd).1, fun u hu v => ((hc nd hnd).2.2.1 u hu).2 v⟩
  · intro i j gi gj hi hj u hu v hv he hns
    rw [List.getElem?_map] at hi hj
    obtain ⟨nd, hnd, rfl⟩ := Option.map_eq_some_iff.mp hi
    obtain ⟨nd', hnd', rfl⟩ := Option.map_eq_some_iff.mp hj
    have hcn := hc nd (List.mem_of_getElem? hnd)
    have hcn' := hc nd' (List.mem_of_getElem? hnd')
    rcases Nat.lt_trichotomy i j with hlt | rfl | hgt
    · -- `nd` comes first, so its level is at most that of `nd'`: but `v` lies strictly below `u`
      obtain ⟨hi', rfl⟩ := List.getElem?_eq_some_iff.mp hnd
      obtain ⟨hj', rfl⟩ := List.getElem?_eq_some_iff.mp hnd'
      obtain ⟨k, k', ⟨u₀, hu₀, hk⟩, ⟨v₀, hv₀, hk'⟩, hle⟩ := List.pairwise_iff_getElem.mp hpw i j hi' hj' hlt
      have := (hk.of_sameScc (((hcn.2.2.1 u₀ hu₀).2 u).mp hu)).lt_of_edge
        (hk'.of_sameScc (((hcn'.2.2.1 v₀ hv₀).2 v).mp hv)) he hns
      omega
    · cases hnd.symm.trans hnd'
      exact absurd (((hcn.2.2.1 u hu).2 v).mp hv) hns
    · exact hgt

/-- The context order is the list of the canonical nodes, sorted by level and then by key: a
description in which the iteration order does not occur. -/
theorem contextOrder_spec {σ : Sched} (hσ : σ.Valid) {deps : AMap} (hk : deps.keys.Nodup)
    (bindings : List (Nat × Nat)) (ho : (bindings.map (·.2)).Nodup)
    (hcov : ∀ u, u ∈ allNodes deps ↔ u ∈ bindings.map (·.1)) :
    ∃ L, contextOrder σ bindings deps = .ok L ∧ IsDepsFirst deps (L.map (·.members)) ∧
      (∀ nd, nd ∈ L ↔ Canon deps bindings nd) ∧ L.Pairwise (NodeBefore deps bindings) := by
  obtain ⟨groups, b', c, hdec, hfrom, hnodes, hlab', hinv'⟩ := fromBindings_ok hσ hk bindings hcov
  have hall : ∀ n, n ∈ allNodes (nodeGraph σ deps bindings groups) ↔ n < c.nodes.length := by
    rw [hnodes, List.length_map]
    exact hdec.mem_allNodes_nodeGraph hσ bindings
  have hkey : ∀ n m, n ∈ allNodes (nodeGraph σ deps bindings groups) →
      m ∈ allNodes (nodeGraph σ deps bindings groups) →
      c.nodeOrder bindings n = c.nodeOrder bindings m → n = m := by
    intro n m hn hm heq
    have hn' := List.getElem?_eq_getElem ((hall n).mp hn)
    have hm' := List.getElem?_eq_getElem ((hall m).mp hm)
    rw [nodeOrder_eq_nodeKey bindings hn', nodeOrder_eq_nodeKey bindings hm'] at heq
    exact hdec.nodeKey_inj ho hcov (hnodes ▸ hn') (hnodes ▸ hm') heq
  -- `b'` labels the node numbers, so there is fuel for one round each
  have hblen : b'.length ≤ c.nodes.length := by
    simpa using length_le_of_nodup_lt hlab'.1 fun x hx =>
      (hall x).mp ((hlab'.2.1 x).mpr (lookup_isSome.mpr hx))
  obtain ⟨order, htopo, hordmem, hpw⟩ :=
    topo_spec hσ hlab' (fun _ _ => hdec.singletons_quotient (hdec.edge_nodeGraph hσ bindings)) bindings c
      hkey (c.nodes.length + 1) c.graph [] [] 0 hinv' (by simp [Lvl]) (by simp [Lvl]) List.Pairwise.nil
      (Nat.succ_le_succ (Nat.le_trans (Nat.sub_le _ _) hblen))
  have hL : contextOrder σ bindings deps = .ok (order.filterMap fun n => c.nodes[n]?) := by
    unfold contextOrder Ctx.topologicalOrder
    simp only [bind, Except.bind, hfrom, htopo]
    rfl
  -- `order` holds every node number, so the result is a rearrangement of `c.nodes`
  have hmemL : ∀ nd, nd ∈ order.filterMap (fun n => c.nodes[n]?) ↔ Canon deps bindings nd := by
    intro nd
    rw [← hdec.mem_map_mkNode ho hcov, ← hnodes, List.mem_filterMap, List.mem_iff_getElem?]
    refine exists_congr fun n => and_iff_right_of_imp fun hn => ?_
    exact (hordmem n).mpr ((hall n).mpr (List.getElem?_eq_some_iff.mp hn).1)
  have hpwL : (order.filterMap fun n => c.nodes[n]?).Pairwise (NodeBefore deps bindings) := by
    refine hpw.filterMap _ fun n m hbef nd hnd nd' hnd' => ?_
    obtain ⟨k, k', hk, hk', hlt⟩ := hbef
    rw [nodeOrder_eq_nodeKey bindings hnd, nodeOrder_eq_nodeKey bindings hnd'] at hlt
    exact ⟨k, k', hdec.nodeAt_of_atLvl hσ (hnodes ▸ hnd) hk, hdec.nodeAt_of_atLvl hσ (hnodes ▸ hnd') hk', hlt⟩
  refine ⟨_, hL, isDepsFirst_of_canon (fun u hu => ?_) (fun nd h => (hmemL nd).mp h) hpwL, hmemL, hpwL⟩
  obtain ⟨g, hg, hug⟩ := List.mem_flatMap.mp ((hdec.2.1 u).mp hu)
  exact ⟨_, (hmemL _).mpr (hdec.canon_mkNode ho hcov hg), mem_mkNode.mpr hug⟩

end ZV.Graph
