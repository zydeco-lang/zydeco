/-
Erased ZCore on the interpreter model, for C01 (`Safety`) and C02 (`RefMachine`) alike: flattened
products, the machine value of an erased value (`semV`), the step the machine takes on each erased
form, what a run keeps (`runFrom_preserves`), and the calls of the six primitive forms.
-/
import ZV.Model.ZCore
import ZV.Proofs.Host

namespace ZV.ZCore
open ZV.Numeric ZV.Machine ZV.Host

theorem intoProductFields_vcons_nonvcons (items : List SemVal) (t : SemVal)
    (h : ∀ i t', t ≠ .vcons i t') : intoProductFields (.vcons items t) = some (items ++ [t]) := by
  rw [intoProductFields.eq_2]
  exact h

theorem intoProductFields_some_vcons {sv : SemVal} {fs : List SemVal}
    (h : intoProductFields sv = some fs) : ∃ i t, sv = .vcons i t := by
  cases sv <;> first | (simp [intoProductFields] at h; done) | exact ⟨_, _, rfl⟩

theorem intoProductFields_last (sv : SemVal) : ∀ fs, intoProductFields sv = some fs →
    ∃ init last, fs = init ++ [last] ∧ ∀ i t, last ≠ .vcons i t := by
  induction sv using intoProductFields.induct with
  | case1 i1 i2 t2 ih =>
    intro fs h
    rw [intoProductFields.eq_1, Option.map_eq_some_iff] at h
    obtain ⟨fs', h2, rfl⟩ := h
    obtain ⟨init, last, rfl, hl⟩ := ih fs' h2
    exact ⟨i1 ++ init, last, (List.append_assoc ..).symm, hl⟩
  | case2 i t hnv =>
    intro fs h
    rw [intoProductFields.eq_2 _ _ hnv] at h
    cases h
    exact ⟨i, t, rfl, hnv⟩
  | case3 t hnv =>
    intro fs h
    obtain ⟨i, t', rfl⟩ := intoProductFields_some_vcons h
    exact absurd rfl (hnv i t')

theorem fromProductFields_snoc : ∀ (init : List SemVal) (last : SemVal), init ≠ [] →
    fromProductFields (init ++ [last]) = .vcons init last
  | [], _, h => absurd rfl h
  | [_], _, _ => rfl
  | v :: w :: ws, last, _ => by
    show SemVal.vcons ((v :: w :: ws) ++ [last]).dropLast (((v :: w :: ws) ++ [last]).getLast?.getD .triv) = _
    rw [List.dropLast_concat, List.getLast?_concat]
    rfl

theorem into_from_fields (vs : List SemVal) (last : SemVal) (hne : vs ≠ [])
    (hlast : ∀ i t, last ≠ .vcons i t) :
    intoProductFields (fromProductFields (vs ++ [last])) = some (vs ++ [last]) := by
  rw [fromProductFields_snoc vs last hne]
  exact intoProductFields_vcons_nonvcons _ _ hlast

theorem into_from_of_into {sv : SemVal} {f : SemVal} {fs : List SemVal}
    (h : intoProductFields sv = some (f :: fs)) (hne : fs ≠ []) :
    intoProductFields (fromProductFields (f :: fs)) = some (f :: fs) := by
  obtain ⟨init, last, e, hl⟩ := intoProductFields_last sv _ h
  have hi : init ≠ [] := by
    rintro rfl
    simp at e
    exact hne e.2
  rw [e]
  exact into_from_fields init last hi hl

theorem assign_pair {x y : Nat} {sv f : SemVal} {fs : List SemVal} (env : Env)
    (hf : intoProductFields sv = some (f :: fs)) (hne : fs ≠ []) :
    assign (.vcons [.var x] (.var y)) sv env = .ok ((env.bind x f).bind y (fromProductFields fs)) := by
  obtain ⟨vi, vt, rfl⟩ := intoProductFields_some_vcons hf
  cases fs with
  | nil => exact absurd rfl hne
  | cons g gs => simp [assign, hf, assignZip]

/-- The machine value of an erased core value in `env`. Erased values contain no pure application,
so this needs no fuel; `evalV_eraseV` is the only place where the fuel of `evalV` is looked at. -/
def semV (env : Env) : V → Option SemVal
  | .var x => env.get? x
  | .unit => some .triv
  | .int t x => some (.lit (.int t x))
  | .str s => some (.lit (.str s))
  | .pair a b => (semV env a).bind fun x => (semV env b).map fun y => .vcons [x] y
  | .ctor _ k arg => (semV env arg).map (.ctor k)
  | .thunk m _ => some (.thunk (eraseC m) env)

theorem evalV_eraseV {env : Env} : ∀ {v : V} {sv : SemVal}, semV env v = some sv →
    ∀ n, (eraseV v).size < n → evalV n env (eraseV v) = .ok sv
  | v, sv, h, 0, hn => by cases hn
  | .var x, sv, h, n + 1, _ => by simp only [semV] at h; simp only [eraseV, evalV, h]
  | .unit, sv, h, n + 1, _ => by cases h; simp only [eraseV, evalV]
  | .int t x, sv, h, n + 1, _ => by cases h; simp only [eraseV, evalV]
  | .str s, sv, h, n + 1, _ => by cases h; simp only [eraseV, evalV]
  | .pair a b, sv, h, n + 1, hn => by
    simp only [semV, Option.bind_eq_some_iff, Option.map_eq_some_iff] at h
    obtain ⟨x, ha, y, hb, rfl⟩ := h
    simp only [eraseV, Val.size, Val.sizes] at hn
    simp only [eraseV, evalV, evalVs, evalV_eraseV ha n (by omega), evalV_eraseV hb n (by omega)]
    rfl
  | .ctor d k arg, sv, h, n + 1, hn => by
    simp only [semV, Option.map_eq_some_iff] at h
    obtain ⟨x, ha, rfl⟩ := h
    simp only [eraseV, Val.size] at hn
    simp only [eraseV, evalV, evalV_eraseV ha n (by omega)]
    rfl
  | .thunk m b, sv, h, n + 1, _ => by cases h; simp only [eraseV, evalV]

theorem valFuel_gt (v : Val) : v.size < valFuel v := by
  unfold valFuel; omega

theorem evalV_eraseV_valFuel {env : Env} {v : V} {sv : SemVal} (h : semV env v = some sv) :
    evalV (valFuel (eraseV v)) env (eraseV v) = .ok sv := evalV_eraseV h _ (valFuel_gt _)

section
variable {st : State} {x y : Nat} {v : V} {m n : C} {sv : SemVal}

theorem step_ret (h : semV st.env v = some sv) : step (eraseC (.ret v)) st = step (.retSem sv) st := by
  simp only [eraseC, step, evalV_eraseV_valFuel h]

theorem step_retSem_kont {tail : Comp} {env : Env} {rest : List Frame}
    (hs : st.stack = .kont tail env (.var x) :: rest) :
    step (.retSem sv) st = .next tail { st with env := env.bind x sv, stack := rest } := by
  simp only [step, hs, assignExpect, assign]

theorem step_bind (x : Nat) (a : VTy) (m n : C) (st : State) : step (eraseC (.bind x a m n)) st =
    .next (eraseC m) { st with stack := .kont (eraseC n) st.env (.var x) :: st.stack } := rfl

theorem step_clet (h : semV st.env v = some sv) :
    step (eraseC (.clet x v m)) st = .next (eraseC m) { st with env := st.env.bind x sv } := by
  simp only [eraseC, step, evalV_eraseV_valFuel h, assignExpect, assign]

theorem step_letPair {f : SemVal} {fs : List SemVal} (h : semV st.env v = some sv)
    (hf : intoProductFields sv = some (f :: fs)) (hne : fs ≠ []) :
    step (eraseC (.letPair x y v m)) st =
      .next (eraseC m) { st with env := (st.env.bind x f).bind y (fromProductFields fs) } := by
  simp only [eraseC, step, evalV_eraseV_valFuel h, assignExpect, assign_pair st.env hf hne]

/-- on the machine term, since a reference closure `RTerm.lam` no longer has the annotation of `fn` -/
theorem step_vabs {body : Comp} {arg : SemVal} {rest : List Frame} (hs : st.stack = .app arg :: rest) :
    step (.vabs (.var x) body) st = .next body { st with env := st.env.bind x arg, stack := rest } := by
  simp only [step, hs, assignExpect, assign]

theorem step_vapp {f : Comp} (h : semV st.env v = some sv) :
    step (.vapp f (eraseV v)) st = .next f { st with stack := .app sv :: st.stack } := by
  simp only [step, evalV_eraseV_valFuel h]

theorem step_app (h : semV st.env v = some sv) :
    step (eraseC (.app m v)) st = .next (eraseC m) { st with stack := .app sv :: st.stack } :=
  step_vapp h

theorem step_force {body : Comp} {env : Env} (h : semV st.env v = some (.thunk body env)) :
    step (eraseC (.force v)) st = .next body { st with env := env } := by
  simp only [eraseC, step, evalV_eraseV_valFuel h]

theorem step_fix (f : Nat) (b : CTy) (m : C) (st : State) : step (eraseC (.fix f b m)) st =
    .next (eraseC m) { st with env := st.env.bind f (.thunk (eraseC (.fix f b m)) st.env) } := by
  simp only [eraseC, step, assignExpect, assign]

/-- The arm loop on erased arms and a constructor value is the lookup of the constructor's arm
(patterns of other constructors fail without binding anything). -/
theorem step_go_eraseArms (st : State) (k : String) (a' : SemVal) (env : Env) :
    ∀ (arms : List (String × Nat × C)), step.go st (.ctor k a') env (eraseArms arms) =
      match arms.find? (·.1 == k) with
      | some (_, x, m) => .next (eraseC m) { st with env := env.bind x a' }
      | none => .done (.stuck .noArm) { st with env }
  | [] => rfl
  | (k1, x1, m1) :: rest => by
    simp only [eraseArms, step.go, assign, List.find?_cons]
    by_cases hk : k1 = k
    · simp [hk]
    · simp [hk, show (k1 == k) = false by simpa using hk, step_go_eraseArms st k a' env rest]

theorem step_case {d : Nat} {arms : List (String × Nat × C)} {b : CTy} {k k' : String} {a' : SemVal}
    (h : semV st.env v = some (.ctor k a')) (hf : arms.find? (·.1 == k) = some (k', x, m)) :
    step (eraseC (.case v d arms b)) st = .next (eraseC m) { st with env := st.env.bind x a' } := by
  simp only [eraseC, step, evalV_eraseV_valFuel h, step_go_eraseArms, hf]

theorem find_eraseCoArms (k : String) : ∀ (arms : List (String × C)),
    (eraseCoArms arms).find? (·.1 == k) = (arms.find? (·.1 == k)).map fun a => (a.1, eraseC a.2)
  | [] => rfl
  | (k1, m1) :: rest => by
    simp only [eraseCoArms, List.find?_cons]
    cases k1 == k <;> simp [find_eraseCoArms k rest]

/-- on the machine term, since `RTerm.cocase` no longer has the type name of `comatch` -/
theorem step_comatch {arms : List (String × C)} {k k' : String} {rest : List Frame}
    (hs : st.stack = .dtor k :: rest) (hf : arms.find? (·.1 == k) = some (k', m)) :
    step (.comatch (eraseCoArms arms)) st = .next (eraseC m) { st with stack := rest } := by
  simp only [step, hs, find_eraseCoArms, hf, Option.map]

theorem step_dtor (m : C) (k : String) (st : State) :
    step (eraseC (.dtor m k)) st = .next (eraseC m) { st with stack := .dtor k :: st.stack } := rfl

theorem step_force_prim (role : String) (arity : Nat) (st : State) :
    step (.force (primThunk role arity)) st = .next (.prim role arity) st := by
  obtain ⟨n, e⟩ : ∃ n, valFuel (.thunk (.prim role arity)) = n + 1 :=
    ⟨_, (Nat.succ_pred_eq_of_pos (Nat.zero_lt_of_lt (valFuel_gt _))).symm⟩
  simp only [step, primThunk, e, evalV]

theorem step_callSem_thunk (body : Comp) (env : Env) (args : List SemVal) (st : State) :
    step (.callSem (.thunk body env) args) st =
      .next body { st with env := env, stack := args.map Frame.app ++ st.stack } := rfl

end

/-- What every step keeps holds of the end of a finished run. -/
theorem runFrom_preserves {Q : StepResult → Prop} (hQ : ∀ {c : Comp} {st : State}, Q (.next c st) → Q (step c st)) :
    ∀ (n : Nat) {c : Comp} {st : State} (k : Nat) {o : Outcome} {st' : State} {k' : Nat},
      Q (step c st) → runFrom n c st k = (some o, st', k') → Q (.done o st')
  | 0, _, _, _, _, _, _, _, h => nomatch h
  | n + 1, c, st, k, _, _, _, hq, h => by
    unfold runFrom at h
    generalize step c st = s at hq h
    cases s with
    | next => exact runFrom_preserves hQ n _ (hQ hq) h
    | done => cases h; exact hq

theorem runFrom_mono : ∀ (n m : Nat) (c : Comp) (st : State) (k0 : Nat) (o : Outcome) (st' : State) (k : Nat),
    runFrom n c st k0 = (some o, st', k) → n ≤ m → runFrom m c st k0 = (some o, st', k)
  | 0, _, _, _, _, _, _, _, h, _ => nomatch h
  | _ + 1, 0, _, _, _, _, _, _, _, hle => nomatch hle
  | n + 1, m + 1, c, st, k0, o, st', k, h, hle => by
    unfold runFrom at h ⊢
    generalize step c st = s at h ⊢
    cases s with
    | next c' st1 => exact runFrom_mono n m c' st1 (k0 + 1) o st' k h (Nat.le_of_succ_le_succ hle)
    | done => exact h

def ArithOp.aop : ArithOp → AOp
  | .add => .add | .sub => .sub | .mul => .mul | .div => .div | .rem => .rem
def CmpOp.cop : CmpOp → COp
  | .eq => .eq | .lt => .lt | .gt => .gt

theorem hostOp_arith (t : IntTy) (op : ArithOp) (x y : BitVec t.width) (σ : Host) :
    hostOp (t.sourceName ++ "_" ++ op.name) [.int t x, .int t y] σ =
      (σ, match Numeric.arith t op.aop x y with
          | .ok r => .ret (.int t r)
          | .trap => .trap) := by
  rw [hostOp_int t op.name (by cases op <;> decide), intOp_eq]
  cases op <;> simp only [ArithOp.name, ArithOp.aop, intArith, dite_true] <;> rfl

theorem hostOp_cmp (t : IntTy) (op : CmpOp) (x y : BitVec t.width) (i j : Nat) (σ : Host) :
    hostOp (t.sourceName ++ "_" ++ op.name) [.int t x, .int t y, .thunk i, .thunk j] σ =
      (σ, if Numeric.cmp t op.cop x y then .call 2 [] else .call 3 []) := by
  rw [hostOp_int t op.name (by cases op <;> decide), intOp_eq]
  cases op <;> simp only [CmpOp.name, CmpOp.cop, intBranch, dite_true] <;> rfl

theorem hostOp_toStr (t : IntTy) (x : BitVec t.width) (σ : Host) :
    hostOp (t.sourceName ++ "_to_string") [.int t x] σ = (σ, .ret (.str (Numeric.toStr t x))) := by
  rw [show t.sourceName ++ "_to_string" = t.sourceName ++ "_" ++ "to_string" by
    rw [String.append_assoc]; rfl, hostOp_int t "to_string" (by decide), intOp_eq]
  simp only [intToStr, dite_true]

-- `by rfl`: the term `rfl` would have the evaluation of `hostOp` done once more, to see whether
-- the equation can serve as a definitional rewrite rule
theorem hostOp_strAppend (a b : List Char) (σ : Host) :
    hostOp "str_append" [.str a, .str b] σ = (σ, .ret (.str (a ++ b))) := by rfl

theorem hostOp_writeLine (s : List Char) (i : Nat) (σ : Host) :
    hostOp "write_line" [.str s, .thunk i] σ =
      ({ σ with output := σ.output ++ encodeUtf8 s ++ [10] }, .call 1 []) := by rfl

theorem hostOp_exit (n : BitVec IntTy.i64.width) (σ : Host) :
    hostOp "exit" [.int .i64 n] σ = (σ, .exit ((BitVec.ofInt 32 (valI64 n)).toInt)) := by rfl

/-! An erased primitive is the forced thunk of the host operation applied to its arguments: the machine
pushes them, forces the thunk, pops them again and turns the host's answer into `retSem`, `callSem`
or the end of the run. These steps are the same whatever is being proved of the run, so they are
taken once here, for any property of step results that is closed under stepping back. The answer
leaves the state as it was before the call, up to the host's output and the `unmodelled` flag. -/

/-- A property of step results that holds of a step as soon as it holds of the next one. -/
structure BackClosed (Q : StepResult → Prop) : Prop where
  next : ∀ {c : Comp} {st : State}, Q (step c st) → Q (.next c st)

section
variable {Q : StepResult → Prop} {st : State} {t : IntTy} {a b : V}

theorem BackClosed.step (hQ : BackClosed Q) {c c' : Comp} {st st' : State} (hs : step c st = .next c' st')
    (h : Q (step c' st')) : Q (step c st) := hs ▸ hQ.next h

theorem prim_arith (hQ : BackClosed Q) {op : ArithOp} {x y : BitVec t.width}
    (ha : semV st.env a = some (.lit (.int t x))) (hb : semV st.env b = some (.lit (.int t y)))
    (hok : ∀ r um, Numeric.arith t op.aop x y = .ok r →
      Q (step (.retSem (.lit (.int t r))) { st with unmodelled := um }))
    (htrap : ∀ um, Numeric.arith t op.aop x y = .trap → Q (.done .trap { st with unmodelled := um })) :
    Q (step (eraseC (.arith t op a b)) st) := by
  refine hQ.step (step_vapp hb) (hQ.step (step_vapp ha) (hQ.step (step_force_prim _ _ _) ?_))
  simp only [step, step.pop, List.reverse_cons, List.reverse_nil, List.nil_append, List.cons_append,
    argsToHV, toHV, hostOp_arith]
  cases e : Numeric.arith t op.aop x y with
  | ok r => exact hQ.next (hok r _ e)
  | trap => exact htrap _ e

theorem prim_cmp (hQ : BackClosed Q) {op : CmpOp} {x y : BitVec t.width} {res : CTy} {yes no : C}
    (ha : semV st.env a = some (.lit (.int t x))) (hb : semV st.env b = some (.lit (.int t y)))
    (h : ∀ um, Q (step (.callSem (.thunk (eraseC (if Numeric.cmp t op.cop x y then yes else no)) st.env) [])
      { st with unmodelled := um })) :
    Q (step (eraseC (.cmp t op a b res yes no)) st) := by
  refine hQ.step (step_vapp (v := .thunk no res) rfl) (hQ.step (step_vapp (v := .thunk yes res) rfl)
    (hQ.step (step_vapp hb) (hQ.step (step_vapp ha) (hQ.step (step_force_prim _ _ _) ?_))))
  simp only [step, step.pop, List.reverse_cons, List.reverse_nil, List.nil_append, List.cons_append,
    argsToHV, toHV, hostOp_cmp]
  cases e : Numeric.cmp t op.cop x y <;> rw [e] at h <;> exact hQ.next (h _)

theorem prim_toStr (hQ : BackClosed Q) {x : BitVec t.width} (ha : semV st.env a = some (.lit (.int t x)))
    (h : ∀ um, Q (step (.retSem (.lit (.str (Numeric.toStr t x)))) { st with unmodelled := um })) :
    Q (step (eraseC (.toStr t a)) st) := by
  refine hQ.step (step_vapp ha) (hQ.step (step_force_prim _ _ _) ?_)
  simp only [step, step.pop, List.reverse_cons, List.reverse_nil, List.nil_append, argsToHV, toHV,
    hostOp_toStr]
  exact hQ.next (h _)

theorem prim_strAppend (hQ : BackClosed Q) {x y : List Char} (ha : semV st.env a = some (.lit (.str x)))
    (hb : semV st.env b = some (.lit (.str y)))
    (h : ∀ um, Q (step (.retSem (.lit (.str (x ++ y)))) { st with unmodelled := um })) :
    Q (step (eraseC (.strAppend a b)) st) := by
  refine hQ.step (step_vapp hb) (hQ.step (step_vapp ha) (hQ.step (step_force_prim _ _ _) ?_))
  simp only [step, step.pop, List.reverse_cons, List.reverse_nil, List.nil_append, List.cons_append,
    argsToHV, toHV, hostOp_strAppend]
  exact hQ.next (h _)

theorem prim_writeLine (hQ : BackClosed Q) {x : List Char} {k : C} (ha : semV st.env a = some (.lit (.str x)))
    (h : ∀ um, Q (step (.callSem (.thunk (eraseC k) st.env) [])
      { st with host.output := st.host.output ++ encodeUtf8 x ++ [10], unmodelled := um })) :
    Q (step (eraseC (.writeLine a k)) st) := by
  refine hQ.step (step_vapp (v := .thunk k .os) rfl) (hQ.step (step_vapp ha)
    (hQ.step (step_force_prim _ _ _) ?_))
  simp only [step, step.pop, List.reverse_cons, List.reverse_nil, List.nil_append, List.cons_append,
    argsToHV, toHV, hostOp_writeLine]
  exact hQ.next (h _)

theorem prim_exit (hQ : BackClosed Q) {x : BitVec IntTy.i64.width} (ha : semV st.env a = some (.lit (.int .i64 x)))
    (h : ∀ um, Q (.done (.exit ((BitVec.ofInt 32 (valI64 x)).toInt)) { st with unmodelled := um })) :
    Q (step (eraseC (.exit a)) st) := by
  refine hQ.step (step_vapp ha) (hQ.step (step_force_prim _ _ _) ?_)
  simp only [step, step.pop, List.reverse_cons, List.reverse_nil, List.nil_append, argsToHV, toHV,
    hostOp_exit]
  exact h _

end

end ZV.ZCore
