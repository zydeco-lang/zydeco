/-
C02 — Interpreter behaviour equals call-by-push-value reference semantics.
Full statements: `ZV/Props/C02Statements.lean`; a statement counts as proved only when a
`theorem` of exactly that proposition appears below.
-/
import ZV.Model.Machine
import ZV.Model.ZCore
import ZV.Model.ZCoreSpec
import ZV.Props.C02Statements
import ZV.Proofs.RefMachine
import ZV.Proofs.MachineMatch
import ZV.Proofs.ZCoreCheck

namespace ZV.Props.C02
open ZV.Machine ZV.ZCore

/-- One machine state has one successor: `step` is a function. -/
theorem step_deterministic (c : Comp) (st : State) (r₁ r₂ : StepResult)
    (h₁ : step c st = r₁) (h₂ : step c st = r₂) : r₁ = r₂ := h₁ ▸ h₂ ▸ rfl

/-- Erasure forgets types, annotations and data-type names: two terms that differ only in those
erase to the same machine term (here: the annotation of a `do`, a thunk and a `match`). -/
theorem erase_ignores_annotations (x : Nat) (a a' : VTy) (m n : C) (b b' : CTy) (v : V) (d d' : Nat)
    (arms : List (String × Nat × C)) :
    eraseC (.bind x a m n) = eraseC (.bind x a' m n) ∧
    eraseV (.thunk m b) = eraseV (.thunk m b') ∧
    eraseC (.case v d arms b) = eraseC (.case v d' arms b') ∧
    eraseV (.ctor d "K" v) = eraseV (.ctor d' "K" v) := ⟨rfl, rfl, rfl, rfl⟩

/-- More fuel never changes a finished run. -/
theorem run_mono : Statement.run_mono :=
  fun n m c st o st' k => runFrom_mono n m c st 0 o st' k

/-- A product value taken apart into its fields and rebuilt is the same fields again. -/
theorem product_fields_roundtrip : Statement.product_fields_roundtrip :=
  fun vs last hne hlast _ => into_from_fields vs last hne hlast

/-- Whatever the reference semantics computes for a program, the machine computes for its
erasure: same exit code or trap, same output bytes. -/
theorem ref_to_machine : Statement.ref_to_machine :=
  fun _ body fuel _ _ _ =>
    ⟨fun _ h => (RM.ref_ends fuel body { stdin := [], argv := [] } h rfl).runFrom _ _ 0 rfl,
      fun h => (RM.ref_ends fuel body { stdin := [], argv := [] } h rfl).runFrom _ _ 0 rfl⟩

/-- Whatever the machine computes for the erasure of an accepted program, the reference
semantics computes too. -/
theorem machine_to_ref : Statement.machine_to_ref := by
  intro Δ body n st k _ hchk
  refine ⟨fun code hrun => ?_, fun hrun => ?_⟩ <;>
    obtain ⟨t, he, ho⟩ := RM.run_is_ref (checkProgram_sound hchk) hrun <;>
    cases t <;> cases ho <;> exact ⟨n, he⟩

/-- The reference semantics of an accepted program never goes wrong. -/
theorem ref_never_wrong : Statement.ref_never_wrong :=
  fun Δ body fuel _ _ hchk h =>
    nomatch RM.preservation Δ fuel [] body [] _ _ [] .os (checkProgram_sound hchk) (RM.EnvTy.nil Δ) h

/-- Of several arms that match, the first is taken. -/
theorem match_takes_first : Statement.match_takes_first := ZV.Machine.match_takes_first

end ZV.Props.C02
