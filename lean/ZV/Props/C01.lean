/-
C01 — Type safety: accepted programs never go wrong in the interpreter. Full statements: `ZV/Props/C01Statements.lean`; a statement counts as proved only when a
`theorem` of exactly that proposition appears below.
-/
import ZV.Model.Machine
import ZV.Model.ZCore
import ZV.Model.ZCoreSpec
import ZV.Props.C01Statements
import ZV.Proofs.Safety
import ZV.Proofs.ZCoreCheck

namespace ZV.Props.C01
open ZV.Machine ZV.ZCore

/-- The machine is a function: one state has one successor (determinism of `step`). -/
theorem step_deterministic (c : Comp) (st : State) (r₁ r₂ : StepResult)
    (h₁ : step c st = r₁) (h₂ : step c st = r₂) : r₁ = r₂ := h₁ ▸ h₂ ▸ rfl

/-- The checker is sound for the declared rules. -/
theorem check_sound : Statement.check_sound := fun _ _ _ _ _ => inferC_iff.1

/-- **Type safety**: a program the checker accepts never reaches an undefined state of the
interpreter model, for every standard input, argument vector and finite prefix of its execution. -/
theorem accepted_never_stuck : Statement.accepted_never_stuck := by
  intro Δ body _ hchk n stdin argv o st k hrun s e
  rcases typed_program_good (checkProgram_sound hchk) hrun with ⟨_, rfl⟩ | rfl <;> cases e

/-- A finished run of an accepted `OS` program ended by exiting, in the arithmetic trap or in a
host failure. -/
theorem os_program_exits : Statement.os_program_exits := by
  intro Δ body _ hchk n stdin argv o st k hrun
  exact (typed_program_good (checkProgram_sound hchk) hrun).imp_right .inl

end ZV.Props.C01
