/-
C16 — Tool output is a deterministic function of the sources.

What can be modelled is the discipline that makes an emitter independent of hash-map iteration
order: iterate in key order. The theorems below are about `ZV.Graph.sortByKey` (the `sort_by_key`
of `BindingContext::ready`) and about the block-elaboration order of C08. Process-level
nondeterminism (addresses, time, scheduling) is not in any model; only the repetition of real
processes can show it (reported under exploration keys).
-/
import ZV.Props.C08

namespace ZV.Props.C16
open ZV.Graph

theorem ins_perm (key : Nat → Nat) (x : Nat) (ys : List Nat) :
    (sortByKey.ins key x ys).Perm (x :: ys) := sortByKey_ins_perm key x ys

theorem sort_perm (key : Nat → Nat) (xs : List Nat) : (sortByKey key xs).Perm xs :=
  ZV.Graph.sortByKey_perm key xs

theorem ins_sorted (key : Nat → Nat) (x : Nat) (ys : List Nat)
    (h : ys.Pairwise fun a b => key a ≤ key b) :
    (sortByKey.ins key x ys).Pairwise fun a b => key a ≤ key b := sortByKey_ins_sorted key x ys h

/-- The result of `sort_by_key` is sorted. -/
theorem sort_sorted (key : Nat → Nat) (xs : List Nat) :
    (sortByKey key xs).Pairwise fun a b => key a ≤ key b := sortByKey_sorted key xs

/-- **Sorted emission is independent of iteration order**: whatever order a hash collection hands
its elements over in (`l₁` and `l₂` are permutations of each other), sorting by a key that is
injective on the elements yields one and the same sequence — so anything emitted by walking the
sorted sequence is the same text in every process. -/
theorem sorted_emit_invariant (key : Nat → Nat) (l₁ l₂ : List Nat) (hp : l₁.Perm l₂)
    (hinj : ∀ a ∈ l₁, ∀ b ∈ l₁, key a = key b → a = b) :
    sortByKey key l₁ = sortByKey key l₂ := by
  have p : (sortByKey key l₁).Perm (sortByKey key l₂) :=
    (sort_perm key l₁).trans (hp.trans (sort_perm key l₂).symm)
  refine List.Perm.eq_of_pairwise (le := fun a b => key a ≤ key b) ?_ (sort_sorted key l₁)
    (sort_sorted key l₂) p
  intro a b ha hb h1 h2
  exact hinj a ((sort_perm key l₁).mem_iff.mp ha) b (hp.mem_iff.mpr ((sort_perm key l₂).mem_iff.mp hb))
    (Nat.le_antisymm h1 h2)

/-- The emitted text of any per-element emitter over the sorted sequence. -/
theorem emitted_text_invariant {β : Type} (emit : Nat → β) (key : Nat → Nat) (l₁ l₂ : List Nat)
    (hp : l₁.Perm l₂) (hinj : ∀ a ∈ l₁, ∀ b ∈ l₁, key a = key b → a = b) :
    (sortByKey key l₁).map emit = (sortByKey key l₂).map emit :=
  congrArg _ (sorted_emit_invariant key l₁ l₂ hp hinj)

/-- The order of elaborated block bindings does not depend on hash-map iteration order (C08). -/
theorem block_order_deterministic : ZV.Props.C08.Statement.topo_deterministic :=
  ZV.Props.C08.topo_deterministic

/-- Non-vacuity: two different iteration orders of the same set. -/
example : sortByKey (fun x => 100 - x) [3, 1, 2] = sortByKey (fun x => 100 - x) [2, 3, 1] := by decide

end ZV.Props.C16
