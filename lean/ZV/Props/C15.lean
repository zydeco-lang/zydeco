/-
C15 — Incremental answers equal from-scratch answers after any edit history.
Full statements: `ZV/Props/C15Statements.lean`; a statement counts as proved only when a `theorem`
of exactly that proposition appears below.

Two models. `ZV/Model/Session.lean` is the input side of `CompilerSession` (lazily created
inputs, overlays, disk refreshes); `ZV/Model/Memo.lean` is a revisioned memo table with recorded
dependencies and eviction. The harness (`harness/src/c15.rs`) compares the real session with a
fresh one after every query of every history, and the real effective texts with the first model.
-/
import ZV.Model.Session
import ZV.Model.Memo
import ZV.Props.C15Statements
import ZV.Proofs.Session
import ZV.Proofs.Memo

namespace ZV.Props.C15
open ZV.Session

/-- The file system after any history is what plain bookkeeping says. -/
theorem run_fs : Statement.run_fs := fs_run

/-- The overlays after any history are what plain bookkeeping says. -/
theorem run_overlay : Statement.run_overlay := overlayOf_run

/-- After every well-formed history, every path shows its overlay, else the current disk. -/
theorem effective_spec : Statement.effective_spec :=
  fun fs0 h p hw => effective_run (init fs0) (synced_init fs0 none) h hw p

/-- A fresh session given overlays shows each overlay, else the disk. -/
theorem fresh_effective : Statement.fresh_effective := effective_of_fresh

/-- After every well-formed history the long-lived session shows what a fresh session over the
final file system and the same overlays shows. -/
theorem incremental_eq_fresh : Statement.incremental_eq_fresh := fun fs0 h ovs hw hov p => by
  rw [effective_of_synced _ (synced_run h _ none (synced_init fs0 none) hw), effective_of_fresh, hov]

/-- Lookups (queries) never change an effective text. -/
theorem lookups_irrelevant : Statement.lookups_irrelevant := fun fs0 h p hw => by
  rw [effective_spec fs0 h p hw, effective_spec fs0 _ p (wf_filter h none hw), specFs_filter,
    specOv_filter]

/-- Input values of the memo table follow plain bookkeeping. -/
theorem values_spec : MemoStatement.values_spec :=
  fun _ v0 h => ZV.Memo.values_run h (ZV.Memo.init v0)

open ZV.Memo in
/-- After any history of sets, queries and evictions, a query answers the from-scratch result. -/
theorem memo_sound : MemoStatement.memo_sound :=
  fun _ hr v0 h q => (query_spec hr _ q (inv_run hr h _ (inv_init v0))).1

namespace Demo

/-- A file looked up while absent, then created and refreshed, is seen. -/
theorem created_after_absent_lookup_is_seen :
    effective (run (init fun _ => none) [.lookup 0, .write 0 7, .refreshDisk 0]) 0 = some 7 := by
  decide

/-- An overlay installed on a file that does not exist yet and removed again leaves nothing. -/
theorem overlay_on_absent_file_then_cleared :
    effective (run (init fun _ => none) [.lookup 1, .setOverlay 1 3, .clearOverlay 1]) 1 = none := by
  decide

/-- A disk change announced only by `clear_overlay` is seen. -/
theorem disk_change_announced_by_clear :
    effective (run (init fun _ => none) [.lookup 0, .setOverlay 0 1, .write 0 7, .clearOverlay 0]) 0 = some 7 := by
  decide

/-- Well-formedness is needed: a write the session is not told about stays invisible for a path
that was looked up before, so the session differs from a fresh one. -/
theorem unannounced_write_differs_from_fresh :
    effective (run (init fun _ => none) [.lookup 0, .write 0 7]) 0 ≠
      effective (fresh (run (init fun _ => none) [.lookup 0, .write 0 7]).fs []) 0 := by
  decide

/-- The same write is visible when the path was never looked up (lazy creation reads it). -/
theorem unannounced_write_before_first_lookup_is_seen :
    effective (run (init fun _ => none) [.write 0 7]) 0 = some 7 := by decide

theorem wf_examples :
    WF [.lookup 0, .write 0 7, .refreshDisk 0, .delete 0, .clearOverlay 0] = true ∧
    WF [.lookup 0, .write 0 7] = false ∧
    WF [.write 0 7, .lookup 0, .refreshDisk 0] = false := by decide

open ZV.Memo in
/-- The hypothesis of `memo_sound` is needed: a computation that reads input 0 without recording
it (a probe that bypasses the inputs) returns a stale answer after input 0 changes. -/
theorem unrecorded_read_goes_stale :
    let compute : Unit → (Nat → Nat) → List Nat × Nat := fun _ f => ([], f 0)
    let db : Db Nat Nat Nat Unit := ZV.Memo.run compute (ZV.Memo.init fun _ => 0) [.query (), .set 0 5]
    (query compute db ()).1 = 0 ∧ (compute () (values db)).2 = 5 := by
  decide

open ZV.Memo in
/-- With the read recorded, the same history answers the new value, also after an eviction. -/
theorem recorded_read_is_fresh :
    let compute : Unit → (Nat → Nat) → List Nat × Nat := fun _ f => ([0], f 0)
    let db : Db Nat Nat Nat Unit :=
      ZV.Memo.run compute (ZV.Memo.init fun _ => 0) [.query (), .set 0 5, .query (), .evict (), .set 0 6]
    (query compute db ()).1 = 6 := by
  decide

end Demo
end ZV.Props.C15
