/-
C06 — full statements of the property theorems (kept apart from the proofs so that nothing is
silently weakened, and so that `ZV/Proofs/Host.lean` can speak of `HandleInv` and `runOps`
themselves). `ZV/Props/C06.lean` proves them.
-/
import ZV.Model.Host
import ZV.Model.Abi
import ZV.Generated.Roles

namespace ZV.Props.C06
open ZV.Host ZV.Abi ZV.Generated ZV.Numeric

namespace Statement

/-- **Every role honours its declared classifier, for all argument values and all host states.**
Called with arguments of the classes its ABI declares, an operation never falls through to an
`unreachable!` (`shapeError`) and its outcome is one the classifier permits: `ret v` with `v` of
the declared result atom, or exactly one of the declared continuations applied to arguments of
that continuation's own declared classes, or (for `OS` effects) an exit / a legacy-stream failure;
the arithmetic trap is the only other outcome. Quantifies over the regenerated table. -/
def hostOp_respects_abi : Prop :=
  ∀ r ∈ roles, ∀ (ps : List VC) (res : CC), r.abi.opParams = some ps → r.abi.opResult = some res →
    ∀ (args : List HV) (σ : Host), argsHaveClass args ps = true →
      outAllowed ps res (hostOp r.source args σ).2 = true

/-- Only integer division and remainder can trap, and only on a zero divisor. -/
def trap_only_div_by_zero : Prop :=
  ∀ (role : String) (args : List HV) (σ : Host), (hostOp role args σ).2 = .trap →
    ∃ (t : IntTy) (a b : BitVec t.width), args = [.int t a, .int t b] ∧ val t b = 0 ∧
      (role = t.sourceName ++ "_div" ∨ role = t.sourceName ++ "_mod")

/-- `split_at_scalar` splits at a scalar-value boundary exactly when the index is in range. -/
def splitAtScalar_spec : Prop :=
  ∀ (s a b : List Char) (i : Nat),
    splitAtScalar s i = some (a, b) ↔ (i ≤ scalarLen s ∧ a ++ b = s ∧ scalarLen a = i)

/-- `str_split_at` takes its `none` branch, never fails, on negative and out-of-range positions,
and otherwise hands over the two halves. -/
def str_split_at_contract : Prop :=
  ∀ (s : List Char) (z : BitVec IntTy.i64.width) (σ : Host) (k₁ k₂ : Nat),
    let out := (hostOp "str_split_at" [.str s, .int .i64 z, .thunk k₁, .thunk k₂] σ).2
    (out = .call 2 [] ∧ (val .i64 z < 0 ∨ (scalarLen s : Int) < val .i64 z)) ∨
    (∃ a b, out = .call 3 [.str a, .str b] ∧ a ++ b = s ∧ (scalarLen a : Int) = val .i64 z)

/-- `str_get` indexes by Unicode scalar value and takes `none` out of range. -/
def str_get_contract : Prop :=
  ∀ (s : List Char) (z : BitVec IntTy.i64.width) (σ : Host) (k₁ k₂ : Nat),
    let out := (hostOp "str_get" [.str s, .int .i64 z, .thunk k₁, .thunk k₂] σ).2
    (out = .call 2 [] ∧ (val .i64 z < 0 ∨ (scalarLen s : Int) ≤ val .i64 z)) ∨
    (∃ c, out = .call 3 [.chr c] ∧ 0 ≤ val .i64 z ∧ s[(val .i64 z).toNat]? = some c)

/-- A code point is accepted exactly when it is a Unicode scalar value, and the character has
that code point. -/
def fromCodepoint_spec : Prop :=
  ∀ n : Int,
    (∀ c, fromCodepoint n = some c → (c.toNat : Int) = n) ∧
    ((fromCodepoint n).isSome = true ↔ (0 ≤ n ∧ n ≤ 0x10FFFF ∧ ¬ (0xD800 ≤ n ∧ n ≤ 0xDFFF)))

/-- `str_parse_int` accepts exactly optional sign + at least one digit + value in range; in
particular it inverts `to_string` on every `Int64`, and what it accepts is in range. -/
def parseI64_spec : Prop :=
  (∀ z : Int, -(2 ^ 63) ≤ z ∧ z ≤ 2 ^ 63 - 1 → Decimal.parseI64 (Decimal.showInt z) = some z) ∧
  (∀ (s : List Char) (z : Int), Decimal.parseI64 s = some z → -(2 ^ 63) ≤ z ∧ z ≤ 2 ^ 63 - 1) ∧
  Decimal.parseI64 [] = none ∧ Decimal.parseI64 ['-'] = none ∧ Decimal.parseI64 ['+'] = none

/-- Bytes and strings: encoding then decoding is the identity; whatever decodes re-encodes to the
same bytes (so `bytes_to_str` takes its `invalid` branch exactly on byte strings that are not the
UTF-8 encoding of any string). -/
def utf8_roundtrip : Prop :=
  (∀ s : List Char, decodeUtf8 (encodeUtf8 s) = some s) ∧
  (∀ (b : Bytes) (s : List Char), decodeUtf8 b = some s → encodeUtf8 s = b)

/-- The two notions of length: bytes of the encoding, and scalar values. -/
def lengths_spec : Prop :=
  ∀ s : List Char, byteLen s = (encodeUtf8 s).length ∧ scalarLen s ≤ byteLen s ∧ byteLen s ≤ 4 * scalarLen s

/-- `split_once` splits at the first occurrence of the separator, and only then. -/
def splitOnce_spec : Prop :=
  ∀ (s : List Char) (sep : Char),
    (splitOnce s sep = none ↔ sep ∉ s) ∧
    (∀ a b, splitOnce s sep = some (a, b) → s = a ++ sep :: b ∧ sep ∉ a)

/-- Handle-table invariant: every open handle was issued by this runtime (readers from 1, writers
from 2, below the next counter) and no handle is open twice. -/
def HandleInv (σ : Host) : Prop :=
  1 ≤ σ.nextReader ∧ 2 ≤ σ.nextWriter ∧
  (∀ h ∈ σ.readers.map (·.1), 1 ≤ h ∧ h < σ.nextReader) ∧
  (∀ h ∈ σ.writers.map (·.1), 2 ≤ h ∧ h < σ.nextWriter) ∧
  (σ.readers.map (·.1)).Nodup ∧ (σ.writers.map (·.1)).Nodup

/-- Run a sequence of operations, threading the host state. -/
def runOps (ops : List (String × List HV)) (σ : Host) : Host :=
  ops.foldl (fun σ op => (hostOp op.1 op.2 σ).1) σ

/-- The invariant holds initially and after every sequence of operations whatsoever (any roles,
any arguments, well-classified or not); the counters never decrease. -/
def handle_invariant : Prop :=
  HandleInv {} ∧
  ∀ (ops : List (String × List HV)) (σ : Host), HandleInv σ →
    HandleInv (runOps ops σ) ∧ σ.nextReader ≤ (runOps ops σ).nextReader ∧
      σ.nextWriter ≤ (runOps ops σ).nextWriter

/-- **Closed handles stay closed**: a reader (writer) handle below the counter that is not open
is not open after any sequence of operations — handles are never reissued — and every operation
on it reports the `Closed` error through the operation's error continuation. -/
def closed_stays_closed : Prop :=
  ∀ (ops : List (String × List HV)) (σ : Host) (h : Nat), HandleInv σ →
    (h < σ.nextReader → σ.reader? h = none → (runOps ops σ).reader? h = none) ∧
    (h < σ.nextWriter → σ.writer? h = none → (runOps ops σ).writer? h = none) ∧
    (h ≠ 0 → σ.reader? h = none → ∀ k₁ k₂ k₃,
      (hostOp "io_read_all" [.reader h, .thunk k₁, .thunk k₂] σ).2 = closedError 1 ∧
      (hostOp "io_read_line" [.reader h, .thunk k₁, .thunk k₂, .thunk k₃] σ).2 = closedError 1 ∧
      (hostOp "io_close_reader" [.reader h, .thunk k₁, .thunk k₂] σ).2 = closedError 1) ∧
    (h ≠ 0 → h ≠ 1 → σ.writer? h = none → ∀ b k₁ k₂,
      (hostOp "io_write_all" [.writer h, .bytes b, .thunk k₁, .thunk k₂] σ).2 = closedError 2 ∧
      (hostOp "io_flush" [.writer h, .thunk k₁, .thunk k₂] σ).2 = closedError 1 ∧
      (hostOp "io_close_writer" [.writer h, .thunk k₁, .thunk k₂] σ).2 = closedError 1)

/-- Standard input, output and error never close. -/
def std_streams_never_close : Prop :=
  ∀ (σ : Host) (k₁ k₂ : Nat),
    (hostOp "io_close_reader" [.reader 0, .thunk k₁, .thunk k₂] σ) = (σ, .call 2 []) ∧
    (hostOp "io_close_writer" [.writer 0, .thunk k₁, .thunk k₂] σ) = (σ, .call 2 []) ∧
    (hostOp "io_close_writer" [.writer 1, .thunk k₁, .thunk k₂] σ) = (σ, .call 2 [])

/-- **Line reads select their continuation by the input, not by the line.** On standard input the
line read takes the end-of-input continuation exactly when nothing is left to read (a blank line
is a line); otherwise the line continuation receives the bytes up to the first `\n` with one
`\n` or `\r\n` terminator removed (everything, unchanged, when no `\n` is left) and the rest of the
input stays unread; nothing is lost or invented. -/
def line_read_contract : Prop :=
  (∀ (σ : Host) (k₁ k₂ k₃ : Nat),
    hostOp "io_read_line" [.reader 0, .thunk k₁, .thunk k₂, .thunk k₃] σ =
      if σ.stdin = [] then (σ, .call 2 [])
      else ({ σ with stdin := (takeLine σ.stdin).2 },
            .call 3 [.bytes (stripEol (takeLine σ.stdin).1)])) ∧
  (∀ b : Bytes, (takeLine b).1 ++ (takeLine b).2 = b ∧ ((takeLine b).1 = [] ↔ b = [])) ∧
  (∀ l rest : Bytes, 10 ∉ l →
    takeLine (l ++ 10 :: rest) = (l ++ [10], rest) ∧
    stripEol (l ++ [10]) = if l.getLast? = some 13 then l.dropLast else l) ∧
  (∀ b : Bytes, 10 ∉ b → takeLine b = (b, []) ∧ stripEol b = b)

end Statement

end ZV.Props.C06
