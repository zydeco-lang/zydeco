/-
C12 - Formatting preserves the parse: grouping elision.
The textual syntax tree keeps the parentheses of the source; the formatter prints a singleton
parenthesis without its delimiters when the requirement of the child position accepts the class
of what it encloses (`pretty.rs` `term_with_requirement`, `pretty/context.rs`). Modelled on term
skeletons (`ZV/Model/Grouping.lean`) with the grammar table transcribed from `parser.lalrpop`.
Full statements: `ZV/Props/C12GroupingStatements.lean`; proofs: `ZV/Proofs/Grouping.lean`, `ZV/Proofs/GroupingIdem.lean`.
-/
import ZV.Props.C12GroupingStatements
import ZV.Proofs.Grouping
import ZV.Proofs.GroupingIdem

namespace ZV.Props.C12.Grouping
open ZV.Grouping

/-- The checker the driver answers with decides the derivation relation. -/
theorem derives_iff : Statement.derives_iff := derives_iff_derivesB

/-- At every child position the formatter asks for at most what the grammar accepts there. -/
theorem req_le_gram : Statement.req_le_gram := fun p =>
  ⟨tableOK_reqOf p, fun h => by rw [← level_reqOf, h]; rfl, fun h => by rw [← level_reqOf, h]; rfl⟩

/-- Under every table with that property, every oracle, at every place: the output is a derivation. -/
theorem elide_derives_table : Statement.elide_derives_table := elideAt_derives

/-- Even a tree that is not a derivation is printed as one. -/
theorem elide_total : Statement.elide_total :=
  fun ch t => elideAt_derives reqOf tableOK_reqOf ch (.req .any) t

/-- Formatting a derivation of `Term` gives a derivation of `Term`, whichever acceptable
parentheses the layout conditions choose to drop. -/
theorem elide_derives : Statement.elide_derives := fun ch t _ => elide_total ch t

/-- The same for `TermAnn`. -/
theorem elide_derives_ann : Statement.elide_derives_ann :=
  fun ch t _ => elideAt_derives reqOf tableOK_reqOf ch (.req .annotated) t

/-- Nothing but parentheses changes. -/
theorem elide_strip : Statement.elide_strip := strip_elideAt

/-- No child position asks for strictly less than the grammar accepts. -/
theorem elide_complete_at : Statement.elide_complete_at := fun p => by
  rw [level_reqOf]; exact ⟨fun h => absurd h (Nat.lt_irrefl _), nofun⟩

/-- The acceptance test coincides with derivability at the position. -/
theorem accepts_iff_derives : Statement.accepts_iff_derives := by
  intro p t hwf hann
  rw [derives_iff_derivesB, derivesB_iff, accepts_eq, level_cls hann, level_reqOf, Nat.ble_eq]
  exact ⟨fun h => ⟨h, hwf⟩, And.left⟩

/-- A constructor argument always comes out parenthesized. -/
theorem ctor_argument_grouped : Statement.ctor_argument_grouped := isGroup_elideAt_group

/-- Formatting twice (every acceptable parenthesis dropped) is formatting once. -/
theorem elide_idempotent : Statement.elide_idempotent := fun c t => elideAt_idem reqOf t c

/-- With the arrow's left requirement widened, `(x -> _) -> 1` is printed as `x -> _ -> 1`. -/
theorem unsafe_when_widened : Statement.unsafe_when_widened := by
  refine ⟨?_, .arrow (.paren (.arrow (.leaf .var) (.leaf .hole))) (.leaf .lit), by decide, by decide,
    .arrow (.leaf .var) (.arrow (.leaf .hole) (.leaf .lit)), by decide, by decide, by decide⟩
  intro h
  exact absurd (h .arrowL) (by decide)

namespace Demo
private abbrev x : T := .leaf .var
private abbrev h : T := .leaf .hole
private abbrev one : T := .leaf .lit

/-- `f ((g x))` becomes `f (g x)`: the outer pair goes, the inner one is needed. -/
theorem double_parens :
    elide dropAll (.app x (.paren (.paren (.app x x)))) = .app x (.paren (.app x x)) := by rfl

/-- `(x -> _) -> 1` keeps its parentheses; `x -> (_ -> 1)` loses them. -/
theorem arrow_left_kept :
    elide dropAll (.arrow (.paren (.arrow x h)) one) = .arrow (.paren (.arrow x h)) one := by rfl
theorem arrow_right_dropped :
    elide dropAll (.arrow x (.paren (.arrow h one))) = .arrow x (.arrow h one) := by rfl

/-- `! (f x)` keeps its parentheses, `! ((x))` loses both pairs. -/
theorem force_application : elide dropAll (.pre .force (.paren (.app x x))) = .pre .force (.paren (.app x x)) := by
  rfl
theorem force_atom : elide dropAll (.pre .force (.paren (.paren x))) = .pre .force x := by rfl

/-- `f (x : _)`: the annotation is accepted as an atom and prints its own parentheses;
inside a block it stands bare. -/
theorem annotation_argument :
    elide dropAll (.app x (.paren (.ann x h))) = .app x (.paren (.ann x h)) := by rfl
theorem annotation_block : elide dropAll (.block (.paren (.ann x h))) = .block (.ann x h) := by rfl

/-- `(fn y => x) 1` keeps its parentheses; `{ (fn y => x) }` loses them. -/
theorem function_head :
    elide dropAll (.app (.paren (.tail .lam x)) one) = .app (.paren (.tail .lam x)) one := by rfl
theorem function_thunk : elide dropAll (.box .thunk (.paren (.tail .lam x))) = .box .thunk (.tail .lam x) := by
  rfl

/-- `+K x` is printed `+K(x)`, `+K ((x))` as well. -/
theorem constructor_argument : elide dropAll (.ctor x) = .ctor (.paren x) ∧
    elide dropAll (.ctor (.paren (.paren x))) = .ctor (.paren x) := ⟨by rfl, by rfl⟩

/-- the layout oracle: a `do` sequence keeps the parentheses that `dropAll` removes -/
theorem layout_keeps_sequence :
    elide layoutChoice (.box .thunk (.paren (.doB x h))) = .box .thunk (.paren (.doB x h)) ∧
    elide dropAll (.box .thunk (.paren (.doB x h))) = .box .thunk (.doB x h) := ⟨by rfl, by rfl⟩

/-- all of these are derivations, and `f fn y => x` is not -/
theorem derivations :
    Derives 6 (.app x (.paren (.paren (.app x x)))) ∧ Derives 6 (.arrow (.paren (.arrow x h)) one) ∧
    Derives 6 (.app (.paren (.tail .lam x)) one) ∧ ¬ Derives 6 (.app x (.tail .lam x)) ∧
    ¬ Derives 6 (.arrow (.arrow x h) one) ∧ ¬ Derives 6 (.app x (.ann x h)) := by decide
end Demo

end ZV.Props.C12.Grouping
