/-
C11 — A source is parsed in full or rejected: no silent truncation.

The theorems are about the mirror of `impl Iterator for Lexer` / `LexicalTokens`
(`ZV/Model/Lexer.lean`), for every raw token stream (no bound on length or nesting).
Together with the trusted LALRPOP fact "an `Ok` parse consumed every token its iterator yielded"
they give the property: what the parser accepted is the whole file outside comments.
-/
import ZV.Model.Lexer
import ZV.Proofs.Lexer

namespace ZV.Props.C11
open ZV.Lexer

/-- **Completeness of the parser's token stream.** A raw token reaches the parser exactly when it
is program text (`significant`) standing outside every comment — wherever it is in the file, in
particular after a stray comment terminator, an unknown character or anything else. -/
theorem lexer_complete (raw : List Raw) (h : Raw.err ∉ raw) (k : Nat) :
    k ∈ lex raw ↔ ∃ t, raw[k]? = some t ∧ significant t = true ∧ depthBefore raw 0 k = 0 :=
  (lexAux_mem_iff raw 0 0 k h).trans
    ⟨fun ⟨j, hj, he⟩ => by rw [Nat.zero_add] at hj; exact hj ▸ he, fun hk => ⟨k, (Nat.zero_add k).symm, hk⟩⟩

/-- Tokens reach the parser in source order and none twice. -/
theorem lexer_ordered (raw : List Raw) : (lex raw).Pairwise (· < ·) :=
  (List.pairwise_lt_range' 1).sublist (lexAux_sublist raw 0 0)

/-- A terminator without an opener is itself handed to the parser (which has no production for
it), so the text after it cannot be dropped silently. -/
theorem stray_close_reaches_parser (raw : List Raw) (h : Raw.err ∉ raw) (k : Nat)
    (hk : raw[k]? = some Raw.commentClose) (hd : depthBefore raw 0 k = 0) : k ∈ lex raw :=
  (lexer_complete raw h k).2 ⟨_, hk, rfl, hd⟩

/-- Nothing inside a comment reaches the parser (this includes everything after an unterminated
comment opener, which is comment text by the language's own tooling view). -/
theorem comment_text_skipped (raw : List Raw) (h : Raw.err ∉ raw) (k : Nat) (hk : k ∈ lex raw) :
    depthBefore raw 0 k = 0 := by
  obtain ⟨_, _, _, hd⟩ := (lexer_complete raw h k).1 hk
  exact hd

/-- **The two lexers agree**: the tooling view (used by the formatter's comment capture and by the
editor) reports as code exactly the tokens the parser received, except the catch-all `Unknown`
token, which the tooling view does not classify (and which the parser rejects). -/
theorem lexers_agree (raw : List Raw) (h : Raw.err ∉ raw) :
    toolCode (toolLex raw) = (lex raw).filter (fun k => raw[k]? != some Raw.unknown) := by
  unfold toolLex lex
  rw [toolCode_toolAux raw 0 0 none h]
  exact lexKnownAux_eq_filter raw raw 0 0 (by intro j; simp)

-- a (b (c) d) e ) f with comment brackets: the stray close (index 9) and the token after it reach the parser
example :
    lex [.code, .commentOpen, .code, .commentOpen, .code, .commentClose, .code, .commentClose,
         .code, .commentClose, .code] = [0, 8, 9, 10] := by decide

-- an unterminated comment swallows the rest, and the tooling view says so
example : lex [.code, .commentOpen, .code, .unknown] = [0] ∧
    toolLex [.code, .commentOpen, .code, .unknown] = [.tok 0 .code, .comment 1 none] := by decide

end ZV.Props.C11
