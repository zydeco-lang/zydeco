/-
C08 — Block contributions are ordered by dependency, not by position.

Theorems about the scheduler-parametrised mirror of `graph.rs` / `BindingContext`
(`ZV/Model/Graph.lean`) against the declarative notions of `ZV/Model/GraphSpec.lean`.
Full statements are kept as `def … : Prop` in `ZV/Props/C08Statements.lean` (namespace
`Statement`); a statement counts as proved only when a `theorem` of exactly that proposition
appears below. Each is derived here from the general theorem of the proof modules that covers it:
`kosaraju_master`, `drain_ok`, `Scc.Inv.foldlM_releaseOne`, `contextOrder_spec`.
-/
import ZV.Props.C08Statements
import ZV.Proofs.ContextOrder

namespace ZV.Props.C08
open ZV.Graph

/-- `sort_by_key` returns a permutation of its input (so no binding is lost or duplicated by the
source-order tie-break). -/
theorem sortByKey_perm (key : Nat → Nat) (xs : List Nat) : (sortByKey key xs).Perm xs :=
  ZV.Graph.sortByKey_perm key xs

/-- The two depth-first searches never run out of fuel and the labelling never fails. -/
theorem kosaraju_total : Statement.kosaraju_total :=
  fun _ _ hσ hwf => (kosaraju_master hσ hwf.1).imp fun _ h => h.1

/-- Kosaraju's labelling is exactly the strongly connected components, whatever the hash-map
iteration order. -/
theorem kosaraju_correct : Statement.kosaraju_correct := by
  intro σ deps b hσ hwf hb
  obtain ⟨b', hb', hlab⟩ := kosaraju_master hσ hwf.1
  cases hb'.symm.trans hb
  exact hlab

/-- Draining `top`/`release` to exhaustion never hits an `unreachable!`, terminates, and yields
every strongly connected component exactly once, dependencies first — any graph, any iteration
order. -/
theorem drain_deps_first : Statement.drain_deps_first := by
  intro σ deps g hσ hwf hg
  obtain ⟨g0, hg0, h⟩ := drain_ok hσ hwf.1
  cases hg0.symm.trans hg
  exact h

/-- Piecemeal (one id at a time) release is safe. -/
theorem release_piecemeal_safe : Statement.release_piecemeal_safe := by
  intro σ deps g script hσ hwf hg hscript
  obtain ⟨g0, b, hg0, hlab, hinv0⟩ := kosaraju_ok hσ hwf.1
  cases hg0.symm.trans hg
  obtain ⟨g', hg', hinv⟩ := hinv0.foldlM_releaseOne hσ script fun k gk id hgk hinvk hid =>
    (hinvk.mem_offer hσ).mp (List.mem_flatMap.mpr (hscript k gk id hgk hid))
  refine ⟨g', hg', fun grp hgrp u hu v he hns => ?_⟩
  obtain ⟨c, hc, _, hroot, _⟩ := hinv.of_mem_top hσ hgrp
  simpa using hlab.mem_gone_of_depsGone ((hc u).mp hu).1 hroot he hns

/-- The order handed to block elaboration is a dependency-respecting decomposition into strongly
connected components with the right `recursive` classification. -/
theorem context_order_valid : Statement.context_order_valid := by
  intro σ bindings deps hσ hwf _ ho hcov
  obtain ⟨L, hL, hdf, hcanon, _⟩ := contextOrder_spec hσ hwf.1 bindings ho hcov
  refine ⟨L, hL, hdf, fun n hn => ?_⟩
  rw [((hcanon n).mp hn).2.2.2, recOf_iff]

/-- **Determinism**: that order does not depend on hash-map iteration order. -/
theorem topo_deterministic : Statement.topo_deterministic := by
  intro σ σ' bindings deps hσ hσ' hwf _ ho hcov
  obtain ⟨L, hL, _, hcanon, hpw⟩ := contextOrder_spec hσ hwf.1 bindings ho hcov
  obtain ⟨L', hL', _, hcanon', hpw'⟩ := contextOrder_spec hσ' hwf.1 bindings ho hcov
  rw [hL, hL']
  congr 1
  refine eq_of_pairwise_of_mem_iff hpw hpw' (fun x hx y hy h1 h2 =>
    NodeBefore.asymm ((hcanon x).mp hx) ((hcanon y).mp hy) h1 h2) fun nd => ?_
  rw [hcanon, hcanon']

end ZV.Props.C08
