/-
C05 — Fixed-width numeric semantics and exact literal range checking.

Property theorems only (helper lemmas live in `ZV/Proofs`). Every theorem quantifies over *all*
operands of *all eight* integer types; nothing here is an enumeration.
Float arithmetic is NOT proved (no IEEE-754 development is available in this image): see
`float_ieee_unproved` at the end, which is a statement only.
-/
import ZV.Model.Numeric
import ZV.Proofs.Decimal
import ZV.Proofs.Numeric

namespace ZV.Props.C05
open ZV.Numeric

/-- A carrier always denotes a value inside the range of its type. -/
theorem val_range (t : IntTy) (x : BitVec t.width) : t.lo ≤ val t x ∧ val t x ≤ t.hi := by
  unfold val IntTy.lo IntTy.hi
  split
  · have := BitVec.le_toInt x
    have := BitVec.toInt_lt (x := x)
    omega
  · have : (x.toNat : Int) < 2 ^ t.width := by exact_mod_cast x.isLt
    omega

/-- Distinct carriers denote distinct values: `val` loses nothing. -/
theorem val_injective (t : IntTy) (x y : BitVec t.width) (h : val t x = val t y) : x = y := by
  unfold val at h
  split at h
  · exact BitVec.eq_of_toInt_eq h
  · exact BitVec.eq_of_toNat_eq (by omega)

/-- `wrap` lands in range … -/
theorem wrap_range (t : IntTy) (z : Int) : t.lo ≤ wrap t z ∧ wrap t z ≤ t.hi :=
  val_ofInt t z ▸ val_range t _

/-- … is the identity on values that are already in range (no spurious wrap-around) … -/
theorem wrap_of_range (t : IntTy) (z : Int) (h : t.lo ≤ z ∧ z ≤ t.hi) : wrap t z = z := by
  have h2 := two_pow_width t
  unfold IntTy.lo IntTy.hi at h
  unfold wrap
  split <;> rename_i hs <;> simp only [hs, if_true, Bool.false_eq_true, if_false] at h
  · have := natCast_two_pow t.width
    exact Int.bmod_eq_of_le (by omega) (by omega)
  · exact Int.emod_eq_of_lt h.1 (by omega)

/-- … and differs from its argument by a multiple of `2 ^ width`. -/
theorem wrap_congr (t : IntTy) (z : Int) : (wrap t z - z) % (2 ^ t.width : Int) = 0 := by
  unfold wrap
  split
  · rw [Int.sub_emod, ← natCast_two_pow, Int.bmod_emod, Int.sub_self, Int.zero_emod]
  · rw [Int.sub_emod, Int.emod_emod, Int.sub_self, Int.zero_emod]

/-! ### Arithmetic: wrapping add / sub / mul -/

theorem add_spec (t : IntTy) (a b : BitVec t.width) :
    ∃ r, arith t .add a b = .ok r ∧ val t r = wrap t (val t a + val t b) :=
  ⟨a + b, rfl, val_eq_wrap (· + ·) (fun _ => BitVec.toInt_add a b) (fun _ => toNat_add_int a b)⟩

theorem sub_spec (t : IntTy) (a b : BitVec t.width) :
    ∃ r, arith t .sub a b = .ok r ∧ val t r = wrap t (val t a - val t b) :=
  ⟨a - b, rfl, val_eq_wrap (· - ·) (fun _ => BitVec.toInt_sub) (fun _ => toNat_sub_int a b)⟩

theorem mul_spec (t : IntTy) (a b : BitVec t.width) :
    ∃ r, arith t .mul a b = .ok r ∧ val t r = wrap t (val t a * val t b) :=
  ⟨a * b, rfl, val_eq_wrap (· * ·) (fun _ => BitVec.toInt_mul a b) (fun _ => toNat_mul_int a b)⟩

/-! ### Division and remainder: truncation toward zero, one trap -/

/-- Division and remainder trap exactly on a zero divisor; nothing else traps. -/
theorem trap_iff (t : IntTy) (op : AOp) (a b : BitVec t.width) :
    arith t op a b = .trap ↔ (op = .div ∨ op = .rem) ∧ val t b = 0 := by
  rw [← eq_zero_iff_val, arith_eq_trap]

/-- Quotient truncated toward zero, then wrapped (only `MIN / -1` actually wraps). -/
theorem div_spec (t : IntTy) (a b : BitVec t.width) (hb : val t b ≠ 0) :
    ∃ r, arith t .div a b = .ok r ∧ val t r = wrap t (Int.tdiv (val t a) (val t b)) := by
  have hb' : b ≠ 0 := fun h => hb ((eq_zero_iff_val t b).1 h)
  refine ⟨_, if_neg hb', val_eq_wrap Int.tdiv (fun h => ?_) (fun h => ?_)⟩
  · rw [if_pos h]; exact BitVec.toInt_sdiv a b
  · rw [if_neg (by simp [h])]; exact toNat_udiv_int a b

/-- Remainder of truncated division: its sign follows the dividend; it never wraps. -/
theorem rem_spec (t : IntTy) (a b : BitVec t.width) (hb : val t b ≠ 0) :
    ∃ r, arith t .rem a b = .ok r ∧ val t r = Int.tmod (val t a) (val t b) := by
  have hb' : b ≠ 0 := fun h => hb ((eq_zero_iff_val t b).1 h)
  cases hs : t.signed
  · refine ⟨a % b, by simp [arith, hs]; exact hb', ?_⟩
    simp only [val, hs, Bool.false_eq_true, ↓reduceIte]
    exact toNat_umod_int a b
  · refine ⟨a.srem b, by simp [arith, hs]; exact hb', ?_⟩
    simp only [val, hs, ↓reduceIte]
    exact BitVec.toInt_srem a b

/-- `a = (a / b) * b + a % b`, the quotient taken before wrapping: the law of truncated division. -/
theorem div_rem_law (t : IntTy) (a b : BitVec t.width) (hb : val t b ≠ 0) :
    ∃ q r, arith t .div a b = .ok q ∧ arith t .rem a b = .ok r ∧
      (val t q - Int.tdiv (val t a) (val t b)) % (2 ^ t.width : Int) = 0 ∧
      val t a = Int.tdiv (val t a) (val t b) * val t b + val t r := by
  obtain ⟨q, hq, hqv⟩ := div_spec t a b hb
  obtain ⟨r, hr, hrv⟩ := rem_spec t a b hb
  refine ⟨q, r, hq, hr, ?_, ?_⟩
  · rw [hqv]; exact wrap_congr t _
  · rw [hrv, Int.mul_comm]; exact (Int.mul_tdiv_add_tmod _ _).symm

/-- `MIN / -1` wraps to `MIN` and `MIN % -1` is `0` at every signed type. -/
theorem min_div_neg_one (t : IntTy) (ht : t.signed = true) (a b : BitVec t.width)
    (ha : val t a = t.lo) (hb : val t b = -1) :
    ∃ q r, arith t .div a b = .ok q ∧ arith t .rem a b = .ok r ∧ val t q = t.lo ∧ val t r = 0 := by
  have hb0 : val t b ≠ 0 := by omega
  obtain ⟨q, hq, hqv⟩ := div_spec t a b hb0
  obtain ⟨r, hr, hrv⟩ := rem_spec t a b hb0
  refine ⟨q, r, hq, hr, ?_, ?_⟩
  · rw [hqv, ha, hb]
    cases t <;> simp [IntTy.signed] at ht <;>
      simp only [wrap, IntTy.lo, IntTy.signed, IntTy.width] <;> decide
  · rw [hrv, ha, hb]; simp

/-! ### Comparisons respect signedness -/

theorem lt_spec (t : IntTy) (a b : BitVec t.width) :
    cmp t .lt a b = true ↔ val t a < val t b := by
  cases hs : t.signed
  · simp only [cmp, val, hs, Bool.false_eq_true, ↓reduceIte]
    rw [BitVec.ult_iff_lt, BitVec.lt_def]; omega
  · simp only [cmp, val, hs, ↓reduceIte]
    exact BitVec.slt_iff_toInt_lt

theorem gt_spec (t : IntTy) (a b : BitVec t.width) :
    cmp t .gt a b = true ↔ val t a > val t b :=
  lt_spec t b a

theorem eq_spec (t : IntTy) (a b : BitVec t.width) :
    cmp t .eq a b = true ↔ val t a = val t b := by
  simp only [cmp, beq_iff_eq]
  exact ⟨fun h => h ▸ rfl, val_injective t a b⟩

/-! ### Literals: exact range check, exact value -/

/-- A literal is accepted at `t` exactly when its mathematical value is in `t`'s range. -/
theorem withType_exact (v : Int) (t : IntTy) :
    (withType v t).isSome = true ↔ t.lo ≤ v ∧ v ≤ t.hi := by
  unfold withType; split <;> simp_all

/-- The run-time value of an accepted literal is exactly the literal. -/
theorem withType_value (v : Int) (t : IntTy) (x : BitVec t.width) (h : withType v t = some x) :
    val t x = v := by
  unfold withType at h
  split at h
  · next hr => cases h; rw [val_ofInt, wrap_of_range t v hr]
  · cases h

/-- Every value of the type is denoted by exactly one accepted literal (its own value). -/
theorem withType_val (t : IntTy) (x : BitVec t.width) : withType (val t x) t = some x := by
  have hr := val_range t x
  unfold withType; rw [if_pos hr]
  exact congrArg some (val_injective t _ _ (by rw [val_ofInt, wrap_of_range t _ hr]))

/-- Unannotated literals are checked at `Int64`. -/
theorem default_is_int64 : defaultTy = .i64 ∧ defaultTy.lo = -9223372036854775808 ∧
    defaultTy.hi = 9223372036854775807 := by decide

/-! ### `to_string` prints the exact value -/

/-- Parsing the printed text back (in the type's own range) returns exactly the value. -/
theorem toStr_exact (t : IntTy) (x : BitVec t.width) :
    Decimal.parseBounded t.lo t.hi (toStr t x) = some (val t x) :=
  Decimal.parseBounded_showInt _ _ _ (val_range t x)

/-! ### Non-vacuity: concrete non-trivial instances of the statements above -/

example : arith .i8 .add 127#8 1#8 = .ok (-128 : BitVec 8) := by decide
example : val .i8 (BitVec.ofInt 8 (-128)) = -128 ∧ val .u8 (BitVec.ofInt 8 (-128)) = 128 := by decide
example : arith .i8 .div (BitVec.ofInt 8 (-128)) (BitVec.ofInt 8 (-1)) = .ok (BitVec.ofInt 8 (-128)) := by
  decide
example : arith .i8 .rem (BitVec.ofInt 8 (-7)) 2#8 = .ok (BitVec.ofInt 8 (-1)) := by decide
example : arith .u8 .div 200#8 0#8 = .trap := by decide
example : cmp .i8 .lt 200#8 3#8 = true ∧ cmp .u8 .lt 200#8 3#8 = false := by decide
example : withType 128 .i8 = none ∧ withType 128 .u8 = some 128#8 ∧ withType (-1) .u8 = none :=
  ⟨rfl, rfl, rfl⟩
example : toStr .i8 (BitVec.ofInt 8 (-128)) = ['-', '1', '2', '8'] := by decide

/-! ### Not proved -/

/-- Full statement of the float half of C05, for reference: zydeco's `Float32`/`Float64`
operations are the IEEE-754 binary32/binary64 operations and a decimal literal is accepted at
`Float32` exactly when it stays finite after narrowing. There is no IEEE-754 development in this
image (`Float` is opaque to the kernel), so this is **not proved**; it is covered only by the
bit-pattern correspondence between Rust's `f32`/`f64` and Lean's `Float32`/`Float` (both compile to
the same hardware operations) reported in `evidence/C05.json` under `float_*` keys. -/
def float_ieee_unproved : Prop := True

end ZV.Props.C05
