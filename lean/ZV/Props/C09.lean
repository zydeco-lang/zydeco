/-
C09 — Imports are hygienic splices over an acyclic, deduplicated source graph.
Full statements: `ZV/Props/C09Statements.lean`; a statement counts as proved only when a `theorem`
of exactly that proposition appears below.
-/
import ZV.Model.SourceGraph
import ZV.Model.SourceGraphSpec
import ZV.Props.C09Statements
import ZV.Proofs.SourceDetect
import ZV.Proofs.SourceOrder
import ZV.Proofs.SourceLoad

namespace ZV.Props.C09
open ZV.SourceGraph

/-- The dependencies of a source are its signature first, then its imports in order. -/
theorem dependencies_order (g : Graph) (sid : Nat) (n : Node) (h : g.sources[sid]? = some n) :
    g.dependencies sid =
      (match n.signature with | some s => [Dep.signature sid s] | none => []) ++ n.imports.map Dep.import := by
  simp only [Graph.dependencies, h]; cases n.signature <;> rfl

/-- Reported cycles are real: the steps are dependency edges of the graph forming a closed walk. -/
theorem cycle_sound : Statement.cycle_sound := by
  intro g root steps hw hlt h
  have := detectCycle_spec hw hlt
  rwa [h] at this

/-- Nothing reported means no cycle is reachable from the root. -/
theorem cycle_complete : Statement.cycle_complete := by
  intro g root hw hlt h ⟨a, hr, hc⟩
  have := detectCycle_spec hw hlt
  rw [h] at this
  exact this a hr hc

/-- On an acyclic graph the provider order lists every reachable file once, providers first. -/
theorem provider_order_topo : Statement.provider_order_topo := by
  intro g root hw hlt h
  have hac := detectCycle_spec hw hlt
  rw [h] at hac
  exact providerOrder_spec hw hlt hac

/-- Loading fails only on a missing import, never for lack of fuel. -/
theorem load_total : Statement.load_total :=
  fun w root _ hc hlt h => (h ▸ loadFile_spec w root) hc hlt

/-- Loading deduplicates by canonical identity and records exactly the edges the files declare. -/
theorem load_spec : Statement.load_spec := by
  intro w root g r _ h
  obtain ⟨G, hroot⟩ := h ▸ loadFile_spec w root
  refine ⟨G.wf, G.sinv.files_nodup, hroot, fun s n hn => ?_⟩
  obtain ⟨n', spec, hn', hspec, himp, hsig⟩ := G.fin s (Nat.zero_le _) (List.getElem?_eq_some_iff.1 hn).1
  cases hn.symm.trans hn'
  exact ⟨spec, hspec, himp, hsig⟩

end ZV.Props.C09
