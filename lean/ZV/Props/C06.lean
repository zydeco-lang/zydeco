/-
C06 — Every host operation honours its declared type and contract.

Theorems about the mirror of `impls.rs` / `host.rs` / `text.rs` (`ZV/Model/Host.lean`), the ABI
classifiers (`ZV/Model/Abi.lean`) and the role table regenerated from the code on every run
(`ZV/Generated/Roles.lean`). Full statements are kept as `def … : Prop` in `Statement`
(`ZV/Props/C06Statements.lean`); a statement counts as proved only when a `theorem` of exactly that
proposition appears below.
-/
import ZV.Props.C06Statements
import ZV.Proofs.Host

namespace ZV.Props.C06
open ZV.Host ZV.Abi ZV.Generated ZV.Numeric

/-- The regenerated table has one row per role the code enumerates. -/
theorem role_count : roles.length = roleCount := by decide +kernel

/-- **Arity agrees with the ABI**: for every role, the number of arguments the interpreter pops
(`arity()`) is the number of value parameters of the role's declared classifier. -/
theorem arity_matches_abi : ∀ r ∈ roles, (r.abi.opParams).map List.length = some r.arity := by
  decide +kernel

/-- Role names are pairwise distinct, so dispatch by name is unambiguous. -/
theorem source_names_nodup : (roles.map (·.source)).Nodup :=
  nodup_of_map nameKey (nodup_of_buckets 16 (by decide +kernel) (by decide))

theorem host_names_nodup : (roles.map (·.host)).Nodup :=
  nodup_of_map nameKey (nodup_of_buckets 16 (by decide +kernel) (by decide))

theorem splitAtScalar_spec : Statement.splitAtScalar_spec := ZV.Host.splitAtScalar_iff

theorem str_split_at_contract : Statement.str_split_at_contract := by
  intro s z σ k₁ k₂
  simp only [hostOp_str_split_at, index?, valI64, scalarLen]
  by_cases h0 : 0 ≤ val .i64 z
  · by_cases h1 : (val .i64 z).toNat ≤ s.length
    · right
      refine ⟨s.take (val .i64 z).toNat, s.drop (val .i64 z).toNat, ?_, List.take_append_drop _ _, ?_⟩
      · simp [h0, h1, optionalPair, splitAtScalar]
      · simp [List.length_take]; omega
    · left
      refine ⟨?_, Or.inr (by omega)⟩
      simp [h0, h1, optionalPair, splitAtScalar]
  · left
    refine ⟨?_, Or.inl (by omega)⟩
    simp [h0, optionalPair]

theorem str_get_contract : Statement.str_get_contract := by
  intro s z σ k₁ k₂
  simp only [hostOp_str_get, index?, valI64, scalarLen]
  by_cases h0 : 0 ≤ val .i64 z
  · cases hc : s[(val .i64 z).toNat]? with
    | none =>
      left
      refine ⟨by simp [h0, hc, Host.optional, scalarAt], Or.inr ?_⟩
      have := List.getElem?_eq_none_iff.1 hc
      omega
    | some c =>
      right
      exact ⟨c, by simp [h0, hc, Host.optional, scalarAt], h0, rfl⟩
  · left
    exact ⟨by simp [h0, Host.optional], Or.inl (by omega)⟩

theorem fromCodepoint_spec : Statement.fromCodepoint_spec := ZV.Host.fromCodepoint_spec

theorem parseI64_spec : Statement.parseI64_spec := ZV.Host.parseI64_spec

theorem splitOnce_spec : Statement.splitOnce_spec :=
  fun s sep => ⟨ZV.Host.splitOnce_eq_none s sep, ZV.Host.splitOnce_eq_some s sep⟩

theorem std_streams_never_close : Statement.std_streams_never_close :=
  fun _ _ _ => ⟨rfl, rfl, rfl⟩

theorem line_read_contract : Statement.line_read_contract :=
  ⟨ZV.Host.io_read_line_stdin,
   fun b => ⟨ZV.Host.takeLine_append b, ZV.Host.takeLine_nil_iff b⟩,
   fun l rest h => ⟨ZV.Host.takeLine_of_newline l rest h, ZV.Host.stripEol_newline l⟩,
   fun b h => ⟨ZV.Host.takeLine_no_newline b h, ZV.Host.stripEol_no_newline b h⟩⟩

theorem utf8_roundtrip : Statement.utf8_roundtrip :=
  ⟨ZV.Host.decodeUtf8_encodeUtf8, ZV.Host.encodeUtf8_of_decodeUtf8⟩

theorem lengths_spec : Statement.lengths_spec :=
  fun s => ⟨(ZV.Host.length_encodeUtf8 s).symm, ZV.Host.byteLen_bounds s⟩

theorem handle_invariant : Statement.handle_invariant := ⟨ZV.Host.inv_init, ZV.Host.run_inv⟩

theorem closed_stays_closed : Statement.closed_stays_closed :=
  fun ops σ h _ => ⟨ZV.Host.run_closedR ops σ h, ZV.Host.run_closedW ops σ h,
    ZV.Host.closed_reader_ops σ h, ZV.Host.closed_writer_ops σ h⟩

theorem trap_only_div_by_zero : Statement.trap_only_div_by_zero := by
  intro role args σ h
  obtain ⟨ty, opParts, t, hsp, ht, hint⟩ := numericOp_trap (hostOp_trap h)
  obtain ⟨a, b, hargs, hb, hop⟩ := intOp_trap hint
  have hty := parseIntTy_eq_some ht
  refine ⟨t, a, b, hargs, (eq_zero_iff_val t b).1 hb, ?_⟩
  have hrole : ∀ op, "_".intercalate opParts = op → op ≠ "" → role = t.sourceName ++ ("_" ++ op) :=
    fun op hop hne => by rw [role_eq_of_splitOn hsp hop hne, hty, String.append_assoc]
  exact hop.imp (hrole _ · (by decide)) (hrole _ · (by decide))

/-- Every row of the regenerated table is recognised by the checker `rowOk` as one of the shapes
proved in `ZV/Proofs/Host.lean` (re-evaluated by the kernel whenever the table changes). -/
theorem all_rows_recognised : ∀ r ∈ roles, ZV.Host.rowOk r.source r.abi = true := by decide +kernel

theorem hostOp_respects_abi : Statement.hostOp_respects_abi :=
  fun r hr => ZV.Host.rowOk_sound (all_rows_recognised r hr)

/-! ### Non-vacuity: concrete, non-trivial instances -/
namespace Demo

theorem split_at_mid :
    (hostOp "str_split_at" [.str ['h', 'é', 'λ'], i64 2, .thunk 7, .thunk 8] {}).2 =
      .call 3 [.str ['h', 'é'], .str ['λ']] := by decide

theorem split_at_negative_or_past_end :
    (hostOp "str_split_at" [.str ['h', 'é', 'λ'], i64 (-1), .thunk 7, .thunk 8] {}).2 = .call 2 [] ∧
    (hostOp "str_split_at" [.str ['h', 'é', 'λ'], i64 4, .thunk 7, .thunk 8] {}).2 = .call 2 [] ∧
    (hostOp "str_get" [.str ['h', 'é', 'λ'], i64 3, .thunk 7, .thunk 8] {}).2 = .call 2 [] ∧
    (hostOp "str_get" [.str ['h', 'é', 'λ'], i64 2, .thunk 7, .thunk 8] {}).2 = .call 3 [.chr 'λ'] := by
  decide

theorem codepoints :
    fromCodepoint 0xD800 = none ∧ fromCodepoint 0x110000 = none ∧ fromCodepoint (-1) = none ∧
    fromCodepoint 0x3BB = some 'λ' ∧ (fromCodepoint 0x10FFFF).isSome = true := by decide

theorem parse_examples :
    Decimal.parseI64 ['+', '7'] = some 7 ∧ Decimal.parseI64 ['-', '0', '0', '7'] = some (-7) ∧
    Decimal.parseI64 "9223372036854775808".toList = none ∧
    Decimal.parseI64 "-9223372036854775808".toList = some (-9223372036854775808) ∧
    Decimal.parseI64 ['1', ' '] = none := by decide

theorem lengths_example : byteLen ['h', 'é', 'λ'] = 5 ∧ scalarLen ['h', 'é', 'λ'] = 3 ∧
    encodeUtf8 ['h', 'é', 'λ'] = [104, 195, 169, 206, 187] := by decide +kernel

theorem invalid_utf8_rejected : decodeUtf8 [0xFF] = none ∧ decodeUtf8 [0xC3] = none ∧
    decodeUtf8 [195, 169] = some ['é'] := by decide +kernel

theorem split_once_example :
    splitOnce ['a', '=', 'b', '=', 'c'] '=' = some (['a'], ['b', '=', 'c']) ∧ splitOnce ['a'] '=' = none := by
  decide

/-- A blank line is a line, not the end of input: `alpha`, blank, `beta` are three reads. -/
theorem blank_line_is_a_line :
    takeLine [97, 10, 10, 98, 10] = ([97, 10], [10, 98, 10]) ∧ takeLine [10, 98, 10] = ([10], [98, 10]) ∧
    stripEol [10] = [] ∧ stripEol [13, 10] = [] ∧ stripEol [120, 13, 10] = [120] ∧
    (hostOp "io_read_line" [.reader 0, .thunk 1, .thunk 2, .thunk 3] { stdin := [10, 98, 10] }).2
      = .call 3 [.bytes []] ∧
    (hostOp "io_read_line" [.reader 0, .thunk 1, .thunk 2, .thunk 3] { stdin := [] }).2 = .call 2 [] := by
  decide

/-- Division by zero is the arithmetic trap, at a concrete role of the table. -/
theorem div_by_zero_traps (σ : Host) :
    (hostOp "int8_div" [.int .i8 7#8, .int .i8 0#8] σ).2 = .trap ∧
    (hostOp "int8_div" [.int .i8 7#8, .int .i8 2#8] σ).2 = .ret (.int .i8 3#8) ∧
    (hostOp "uint8_mod" [.int .u8 7#8, .int .u8 0#8] σ).2 = .trap := by
  have h1 := ZV.Host.hostOp_int .i8 "div" (by decide)
  have h2 := ZV.Host.hostOp_int .u8 "mod" (by decide)
  rw [show IntTy.i8.sourceName ++ "_" ++ "div" = "int8_div" by decide] at h1
  rw [show IntTy.u8.sourceName ++ "_" ++ "mod" = "uint8_mod" by decide] at h2
  rw [h1, h1, h2]
  exact ⟨rfl, rfl, rfl⟩

/-- The checker behind `hostOp_respects_abi` is not trivially true: it rejects a role with the wrong
classifier, an unknown operation, and an I/O role declared with a different shape. -/
theorem checker_rejects :
    ZV.Host.rowOk "int8_add" (ZV.Host.toStrAbi (.int .i8)) = false ∧
    ZV.Host.rowOk "int8_add" (ZV.Host.arithAbi (.int .i16)) = false ∧
    ZV.Host.rowOk "int8_pow" (ZV.Host.arithAbi (.int .i8)) = false ∧
    ZV.Host.rowOk "float32_mod" (ZV.Host.arithAbi .f32) = false ∧
    ZV.Host.rowOk "io_read" (.thunk .os) = false ∧
    ZV.Host.rowOk "int8_add" (ZV.Host.arithAbi (.int .i8)) = true := by decide +kernel

/-- A script on the handle table: open a file (handle 1), close it, read from it (`Closed`), open the
file again (handle 2, never 1 again). -/
theorem handle_script :
    let σ₀ : Host := { files := [(['f'], [104, 105])] }
    let open1 := hostOp "fs_open_reader" [.str ['f'], .thunk 0, .thunk 1] σ₀
    let close1 := hostOp "io_close_reader" [.reader 1, .thunk 0, .thunk 1] open1.1
    let read1 := hostOp "io_read_all" [.reader 1, .thunk 0, .thunk 1] close1.1
    let open2 := hostOp "fs_open_reader" [.str ['f'], .thunk 0, .thunk 1] read1.1
    let read2 := hostOp "io_read_all" [.reader 2, .thunk 0, .thunk 1] open2.1
    open1.2 = .call 2 [.reader 1] ∧ close1.2 = .call 2 [] ∧ read1.2 = closedError 1 ∧
    open2.2 = .call 2 [.reader 2] ∧ read2.2 = .call 2 [.bytes [104, 105]] ∧
    Statement.HandleInv read2.1 := by
  refine ⟨by decide, by decide, by decide, by decide, by decide, ?_⟩
  -- the invariant does not look at the files: that of `{}` is that of `σ₀`
  exact (handle_invariant.2
    [("fs_open_reader", [.str ['f'], .thunk 0, .thunk 1]), ("io_close_reader", [.reader 1, .thunk 0, .thunk 1]),
     ("io_read_all", [.reader 1, .thunk 0, .thunk 1]), ("fs_open_reader", [.str ['f'], .thunk 0, .thunk 1]),
     ("io_read_all", [.reader 2, .thunk 0, .thunk 1])] { files := [(['f'], [104, 105])] }
    handle_invariant.1).1

end Demo

end ZV.Props.C06
