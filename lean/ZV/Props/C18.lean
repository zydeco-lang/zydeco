/-
C18 — Every accepted executable lowers to native code text with valid IR.

Totality of the backend (no internal error from `BackendProgram::lower`, the renderers and the
emitters on any accepted executable) is decided by search (`zv-harness c19 --only c18`): the passes
are not mirrored in Lean. What is proved here concerns the *invariants* part of the property for the
first-order program: the validator the driver runs on every program the real compiler produces
(`sps validate`) decides exactly the invariants `SpsLowProgram::try_new` states, over an independent
free-variable specification, and those invariants are what the reference machine needs never to
look up a missing code address or variable.

Full statements: `ZV/Props/C18Statements.lean` (and `C19Statements.lean` for the shared ones); a
statement counts as proved only when a `theorem` of exactly that proposition appears below.
-/
import ZV.Model.SpsLow
import ZV.Model.SpsLowFree
import ZV.Props.C18Statements
import ZV.Props.C19
import ZV.Proofs.SpsLowFree

namespace ZV.Props.C18
open ZV.SpsLow

/-- The validator decides exactly: unique labels, closed root, no implicit capture, joins only at
coproduct branches. -/
theorem validate_iff_invariants : Statement.validate_iff_invariants := by
  intro p
  rw [validate_iff]
  constructor
  · rintro ⟨h1, h2, h3, h5⟩
    have hnc : NoCap (blocksC p.root) := blocksC_noCap p.root h3
    exact ⟨h1, (fun x hx => nomatch (scopeC_subIff p.root hnc []).1 h2 x hx),
      fun l b => hnc (l, b), h5⟩
  · rintro ⟨h1, h2, h3, h5⟩
    have hnc : NoCap (blocksC p.root) := fun lb => h3 lb.1 lb.2
    refine ⟨h1, (scopeC_subIff p.root hnc []).2 fun x hx => (h2 x hx).elim, fun lb hm => ?_, h5⟩
    have hnb : NoCap (blocksC lb.2) := fun lb' hm' => hnc lb' (blocksC_closed p.root lb hm lb' hm')
    exact (scopeC_subIff lb.2 hnb [lb.1]).2 fun x hx => by simp [hnc lb hm x hx]

/-- The scope check is containment of the free variables. -/
theorem scope_iff_free : Statement.scope_iff_free :=
  fun c hn bound => scopeC_subIff c (fun lb hm => hn lb.1 lb.2 hm) bound

/-- In a valid program a block's label denotes that block's own body (labels are unique). -/
theorem validated_block_lookup : ZV.Props.C19.Statement.validated_block_lookup :=
  ZV.Props.C19.validated_block_lookup

/-- Blocks nested in blocks of the table are in the table. -/
theorem nested_blocks_in_table : ZV.Props.C19.Statement.nested_blocks_in_table :=
  ZV.Props.C19.nested_blocks_in_table

/-- A valid program never jumps to a code address without a block and never reads a variable that
did not arrive through the stack, for every host, input and number of steps. -/
theorem validated_no_lookup_failure : ZV.Props.C19.Statement.validated_no_lookup_failure :=
  ZV.Props.C19.validated_no_lookup_failure

namespace Demo

/-- a block that returns unit to the initial continuation -/
def retUnit : Program :=
  { root := .jump (.block 0 (.openKont .bullet (.var 1) (.jump (.var 1) (.arg .triv .bullet)))) .bullet }
example : validate retUnit = true := by decide
example : fvC retUnit.root = [] := by decide

/-- the same label on two blocks -/
def twice : Program :=
  { root := .jump (.closure (.block 0 (.hole .bullet)) (.block 0 (.hole .bullet))) .bullet }
example : validateWhy twice = "duplicate-label" := by decide

/-- a free variable at the root -/
def openRoot : Program := { root := .jump (.var 3) .bullet }
example : validateWhy openRoot = "open-root" := by decide
example : fvC openRoot.root = [3] := by decide

/-- a block using a variable bound outside it -/
def captures : Program :=
  { root := .letValue (.var 5) .triv (.jump (.block 0 (.jump (.var 5) .bullet)) .bullet) }
example : validateWhy captures = "implicit-capture" := by decide

/-- a coproduct match without its stack let-binding -/
def unguarded : Program := { root := .coprodMatch .triv [(.triv, .hole .bullet)] }
example : validateWhy unguarded = "join-placement" := by decide
example : validate { root := .letStack .bullet unguarded.root } = true := by decide

end Demo

end ZV.Props.C18
