/-
C14 — Formatting is idempotent and canonical.
The printer as a whole is not modelled (see DESIGN.md); the kernel-checked part is the command-line
adapter: `fmt --check` against `fmt`. Full statements: `ZV/Props/C14Statements.lean`.
-/
import ZV.Props.C14Statements
import ZV.Proofs.FmtCli

namespace ZV.Props.C14
open ZV.FmtCli

/-- `fmt --check` reports a file as changed exactly when `fmt` modifies it; both report the same
outcome; `--check` never writes. -/
theorem check_iff_write : Statement.check_iff_write := ZV.FmtCli.check_iff_write_pf

/-- A file that does not parse is left as it is, and the failure is reported. -/
theorem unparseable_untouched : Statement.unparseable_untouched := ZV.FmtCli.unparseable_untouched_pf

/-- What `fmt` writes is what the renderer produced. -/
theorem written_is_rendered : Statement.written_is_rendered := ZV.FmtCli.written_is_rendered_pf

/-- With an idempotent renderer, a file `fmt` has written is reported unchanged by `--check`. -/
theorem format_then_check : Statement.format_then_check := ZV.FmtCli.format_then_check_pf

/-- `fmt --check` exits 1 exactly when some file would change; plain `fmt` exits 0; `--check`
leaves every file as it was. -/
theorem exit_status : Statement.exit_status := ZV.FmtCli.exit_status_pf

namespace Demo
/-- non-vacuity: a renderer that trims a trailing blank -/
theorem check_iff_write_example :
    let r : String → Option String := fun s => if s = "bad" then none else some "ret 1\n"
    (checkPath r "ret  1").1 = some .changed ∧ (formatPath r "ret  1").2 = "ret 1\n" ∧
    (checkPath r "ret 1\n").1 = some .unchanged ∧ formatPath r "bad" = (none, "bad") := by
  decide
end Demo

end ZV.Props.C14
