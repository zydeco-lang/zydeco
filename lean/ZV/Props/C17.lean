/-
C17 — Concurrent analyses on session snapshots are isolated and consistent.
Full statements: `ZV/Props/C17Statements.lean`; a statement counts as proved only when a `theorem`
of exactly that proposition appears below. The models (`ZV/Model/Concurrency.lean`) are labelled
transition systems; every theorem is an invariant of ALL reachable states (every interleaving,
any number of threads or tasks), proved by induction over reachability - nothing is enumerated.

What the kernel-checked part does NOT say: that the Rust code refines these systems. The operating
system's scheduler, salsa's storage (cancellation, memo validation), dashmap, and memory ordering are
outside the models; the harness (`harness/src/c17.rs`) is what confronts the real code.
-/
import ZV.Model.Concurrency
import ZV.Props.C17Statements
import ZV.Proofs.Concurrency

namespace ZV.Props.C17
open ZV.Concurrency

/-- Under every interleaving of the compare-exchange loops of any number of threads, the key spaces
returned by `KeySpaceId::fresh` are pairwise distinct, non-zero, at most `u64::MAX`, and exactly
`1 .. counter` (none skipped). -/
theorem keyspace_unique : Statement.keyspace_unique := fun _ h =>
  have inv := Ks.inv_of_reach h
  ⟨inv.nodup, fun _ => inv.bounds, inv.dense, inv.le⟩

/-- At `u64::MAX` the counter stays put and nothing more is issued (the code panics; it never wraps
around to an identity already in use). -/
theorem keyspace_exhaustion : Statement.keyspace_exhaustion := by
  intro s s' hmax hstep
  rcases hstep.effect with ⟨hc, hi⟩ | ⟨hlt, _⟩
  · exact ⟨hc.trans hmax, hi⟩
  · omega

/-- `(key space, raw)` pairs issued by any allocators under any interleaving are pairwise distinct;
distinct allocators have distinct key spaces; raw slots stay below `u32::MAX`. -/
theorem id_injective : Statement.id_injective := fun _ h =>
  have inv := Sys.inv_of_reach h
  ⟨inv.nodup, fun _ => inv.id_bounds, fun _ _ _ _ => idx_inj_of_nodup_map inv.spaces_nodup⟩

/-- `CompactKeySpaceId::new(id).expand() == id` for every `u64`. -/
theorem compact_roundtrip : Statement.compact_roundtrip := by
  intro v hv
  have hv' : v < 2 ^ 64 := by simp only [u64Max] at hv; omega
  have hhigh : v >>> 32 < 2 ^ 32 := by
    rw [Nat.shiftRight_eq_div_pow]
    exact Nat.div_lt_of_lt_mul (by omega)
  have hlow : v % 2 ^ 32 < 2 ^ 32 := Nat.mod_lt _ (by decide)
  refine ⟨?_, ?_, hlow⟩
  · simp only [compactExpand, compactHigh, compactLow, Nat.mod_eq_of_lt hhigh]
    rw [← Nat.shiftLeft_add_eq_or_of_lt hlow, Nat.shiftLeft_eq, Nat.shiftRight_eq_div_pow]
    have := Nat.div_add_mod v (2 ^ 32)
    omega
  · simp only [compactHigh]; exact Nat.mod_lt _ (by decide)

/-- Every completed task holds the analysis of the contents of exactly one revision: the one its
snapshot was taken at. -/
theorem snapshot_isolation : Statement.snapshot_isolation := by
  intro File Content Root Result _ analyze docOf c0 s h
  have inv := inv_of_reach h
  refine ⟨inv.hist, fun snap root d res hmem => ?_⟩
  obtain ⟨⟨h1, h2, _, _⟩, h5⟩ := inv.tasks _ hmem
  exact ⟨h1, h2, by rw [h5, h2]⟩

/-- Every result accepted by the editor's commit rule is the analysis of one revision not later than
the commit, in which an open document has the text it has at the commit. -/
theorem commit_consistent : Statement.commit_consistent := by
  intro File Content Root Result _ analyze docOf c0 s h c hc
  obtain ⟨h1, h2, h3, h4, h5⟩ := (inv_of_reach h).log c hc
  exact ⟨h1, h2, by rw [h4, h3], fun n hn => h3 ▸ h5 n hn, fun heq => by rw [h4, h3, heq]⟩

/-- With one registry of inputs shared by all handles, memoised analyses accepted by dependency
validation are exact for the snapshot that receives them. -/
theorem registry_shared_consistent : Statement.registry_shared_consistent :=
  fun _ _ _ _ _ _ _ _ hlocal _ h => (rinv_of_reach hlocal h).returned

/-- With the registry copied by `snapshot()` (the code before `fix:` 90d0544, which made `files` an
`Arc<DashMap<..>>`), a snapshot can be answered with the analysis of contents it did not see. -/
theorem registry_copied_stale : Statement.registry_copied_stale := by
  have r0 : RReach (fun c : Unit → Nat => c ()) false [()] (fun _ => 0) 0 (RSt.init (fun _ => 0) 0) :=
    RReach.init
  -- a snapshot is taken; it loads the imported file itself (into ITS registry) and analyses
  have r1 := r0.step .snapshot
  have r2 := r1.step (.load 0 (fun _ => none) (fun _ => 0) () rfl List.mem_cons_self rfl)
  have r3 := r2.step (.compute 0 (upd (fun _ => none) () (some 0)) (fun _ => 0) [((), 0)] rfl
    ⟨rfl, List.forall_mem_singleton.2 rfl⟩ nofun)
  have r4 := r3.step (.drop 0)
  -- the owner edits the file: it never registered it, so this is a NEW input
  have r5 := r4.step (.editNew () 5 rfl rfl)
  -- the next snapshot sees 5, but the memo's dependency (input 0) did not change
  have r6 := r5.step .snapshot
  have r7 := r6.step (.reuse 0 _ _ _ rfl rfl (List.forall_mem_singleton.2 (Nat.le_refl _)))
  exact ⟨_, r7, _, List.mem_cons_self, by decide⟩

namespace Demo

/-- Two threads interleave inside `fresh`: both load 0, the first wins, the second fails its
compare-exchange, is handed 1 and wins with 2. -/
theorem two_threads_interleave : ∃ s : Ks, Ks.Reach s ∧ s.issued = [(1, 2), (0, 1)] := by
  have r0 := Ks.Reach.init
  have r1 := r0.step (.load 0 0 rfl (Nat.le_refl _))
  have r2 := r1.step (.load 1 0 rfl (Nat.le_refl _))
  have r3 := r2.step (.casOk 0 0 rfl rfl (by decide))
  have r4 := r3.step (.casFail 1 0 1 rfl (by decide) (Nat.le_refl _))
  have r5 := r4.step (.casOk 1 1 rfl rfl (by decide))
  exact ⟨_, r5, rfl⟩

/-- Two allocators are created and allocate in turn: identifiers `(1,0)`, `(2,0)`, `(1,1)`. -/
theorem two_allocators_allocate :
    ∃ s : Sys, Sys.Reach s ∧ s.ids = [(0, 1, 1), (1, 2, 0), (0, 1, 0)] := by
  have r0 := Sys.Reach.init
  have r1 := r0.step (.internal (.load 0 0 rfl (Nat.le_refl _)) rfl)
  have r2 := r1.step (.create (t := 0) (v := 1) (.casOk 0 0 rfl rfl (by decide)) rfl)
  have r3 := r2.step (.internal (.load 5 1 rfl (Nat.le_refl _)) rfl)
  have r4 := r3.step (.create (t := 5) (v := 2) (.casOk 5 1 rfl rfl (by decide)) rfl)
  have r5 := r4.step (.alloc 0 ⟨1, 0⟩ rfl (by decide))
  have r6 := r5.step (.alloc 1 ⟨2, 0⟩ rfl (by decide))
  have r7 := r6.step (.alloc 0 ⟨1, 1⟩ rfl (by decide))
  exact ⟨_, r7, rfl⟩

/-- The commit rule looks at the document only: a result can be committed although a dependency has
moved on. Files: `true` = the document, `false` = its dependency; the analysis adds both. -/
theorem document_only_commit_can_be_older_than_a_dependency : ∃ s : St Bool Nat Unit Nat,
    Reach (fun c _ => c true + c false) (fun _ => true) (fun _ => 0) s ∧
    ∃ c ∈ s.log, c.result ≠ s.inputs true + s.inputs false := by
  have r0 : Reach (fun (c : Bool → Nat) (_ : Unit) => c true + c false) (fun _ => true) (fun _ => 0)
      (St.init (fun _ => 0)) := Reach.init
  have r1 := r0.step (.request ())
  have r2 := r1.step (.snapshot 0 () none rfl)
  have r3 := r2.step (.complete 0 _ () none rfl)
  have r4 := r3.step (.edit false 7 (by simp [St.init, Task.isRunning]))
  have r5 := r4.step (.commit 0 _ () none _ rfl rfl)
  exact ⟨_, r5, _, List.mem_cons_self, by decide⟩

/-- An edit of the document between the request and the commit is refused: the task ends
superseded and nothing is committed. -/
theorem edit_of_the_document_supersedes : ∃ s : St Bool Nat Unit Nat,
    Reach (fun c _ => c true + c false) (fun _ => true) (fun _ => 0) s ∧
    s.tasks = [.superseded] ∧ s.log = [] := by
  have r0 : Reach (fun (c : Bool → Nat) (_ : Unit) => c true + c false) (fun _ => true) (fun _ => 0)
      (St.init (fun _ => 0)) := Reach.init
  have r1 := r0.step (.request ())
  have r2 := r1.step (.snapshot 0 () none rfl)
  have r3 := r2.step (.complete 0 _ () none rfl)
  have r4 := r3.step (.edit true 7 (by simp [St.init, Task.isRunning]))
  have r5 := r4.step (.supersede 0 _ () none _ rfl (by decide))
  exact ⟨_, r5, rfl, rfl⟩

/-- With the shared registry the failing history of `registry_copied_stale` ends differently: the
owner's edit goes to the input the snapshot registered, the memo is invalid, the analysis is
recomputed and the answer is right (both answers are in `returned`). -/
theorem shared_registry_recomputes : ∃ s : RSt Unit Nat Nat,
    RReach (fun c => c ()) true [()] (fun _ => 0) 0 s ∧ s.returned = [(5, 5), (0, 0)] := by
  have r0 : RReach (fun c : Unit → Nat => c ()) true [()] (fun _ => 0) 0 (RSt.init (fun _ => 0) 0) :=
    RReach.init
  have r1 := r0.step .snapshot
  have r2 := r1.step (.load 0 (fun _ => none) (fun _ => 0) () rfl List.mem_cons_self rfl)
  have r3 := r2.step (.compute 0 (fun _ => none) (fun _ => 0) [((), 0)] rfl
    ⟨rfl, List.forall_mem_singleton.2 rfl⟩ nofun)
  have r4 := r3.step (.drop 0)
  have r5 := r4.step (.editKnown () 0 5 rfl rfl)
  have r6 := r5.step .snapshot
  have r7 := r6.step (.compute 0 _ _ [((), 0)] rfl ⟨rfl, List.forall_mem_singleton.2 rfl⟩
    (by intro m hm; cases hm; exact ⟨((), 0), List.mem_cons_self, by decide⟩))
  exact ⟨_, r7, rfl⟩

end Demo

end ZV.Props.C17
