/-
C20 — Monadic blocks instantiated at the identity monad compute the same result.
Full statements: `ZV/Props/C20Statements.lean`; a statement counts as proved only when a `theorem`
of exactly that proposition appears below.
-/
import ZV.Props.C20Statements
import ZV.Proofs.Monadic

namespace ZV.Props.C20
open ZV.ZCore ZV.ZCore.Mo ZV.ZCore.Lk

/-- The translation leaves host operations, and everything that is not `ret` or `do`, in place. -/
theorem liftId_homomorphic (x : Nat) (a : VTy) (m : C) (v : V) :
    liftIdC (.fn x a m) = .fn x a (liftIdC m) ∧
    liftIdC (.app m v) = .app (liftIdC m) (liftIdV v) ∧
    liftIdC (.force v) = .force (liftIdV v) ∧
    liftIdC (.clet x v m) = .clet x (liftIdV v) (liftIdC m) := by
  simp [liftIdC]

/-- Whatever a closed computation returns (a ground value), exits with or traps with, its
translation at the identity monad does too, with the same output. -/
theorem identity_forward : Statement.identity_forward := by
  intro m fuel out
  refine ⟨?_, ?_, ?_⟩
  · intro v hg h
    obtain ⟨t', h', ht⟩ := fwd_closed m fuel _ out h
    cases ht with
    | ret hv => rw [ground_eq hv (.inl hg)] at h'; exact ⟨_, h'⟩
  · intro code h
    obtain ⟨t', h', ht⟩ := fwd_closed m fuel _ out h
    cases ht; exact ⟨_, h'⟩
  · intro h
    obtain ⟨t', h', ht⟩ := fwd_closed m fuel _ out h
    cases ht; exact ⟨_, h'⟩

/-- The converse. -/
theorem identity_backward : Statement.identity_backward := by
  intro m fuel out
  refine ⟨?_, ?_, ?_⟩
  · intro v hg h
    obtain ⟨t, h', ht⟩ := bwd_closed m fuel _ out h
    cases ht with
    | ret hv => rw [← ground_eq hv (.inr hg)] at h'; exact ⟨_, h'⟩
  · intro code h
    obtain ⟨t, h', ht⟩ := bwd_closed m fuel _ out h
    cases ht; exact ⟨_, h'⟩
  · intro h
    obtain ⟨t, h', ht⟩ := bwd_closed m fuel _ out h
    cases ht; exact ⟨_, h'⟩

/-- The translated block goes wrong only where the plain one does (with the same fuel and the
same output, which is more than is asked). -/
theorem identity_never_wrong : Statement.identity_never_wrong := by
  intro m fuel out h
  obtain ⟨t, h', ht⟩ := bwd_closed m fuel _ out h
  cases ht; exact ⟨fuel, out, h'⟩

/-- The identity instance satisfies the left unit law observably, for any continuation and any
environment. -/
theorem left_unit : Statement.left_unit := by
  intro ρ v x a k fuel out rv r out' hv hk
  refine ⟨fuel + 4, ?_⟩
  rw [← lbind, lbind_eq]
  cases fuel with
  | zero => simp [evalRC] at hk
  | succ f =>
    rw [lret_some f ρ v rv out hv]
    simp only [thenK]
    exact evalRC_mono _ _ _ _ _ _ hk (by omega)

namespace Demo
/-- non-vacuity: `do 0 <- ret (); ret 0` (a user variable named like the instance's own binders)
and its translation both return `()` -/
theorem identity_example :
    evalRC 20 [] (liftIdC (.bind 0 .unit (.ret .unit) (.ret (.var 0)))) [] = some (.ret .unit, []) ∧
    evalRC 20 [] (.bind 0 .unit (.ret .unit) (.ret (.var 0))) [] = some (.ret .unit, []) := by
  constructor <;> rfl
end Demo

end ZV.Props.C20
