/-
C07 — Lexical scoping and import hygiene: bound names can be renamed freely.
Full statements: `ZV/Props/C07Statements.lean`; a statement counts as proved only when a `theorem`
of exactly that proposition appears below.
-/
import ZV.Props.C07Statements
import ZV.Proofs.Scope

namespace ZV.Props.C07
open ZV.ZCore

/-- A free occurrence has no canonical form whatever its name: an unbound variable stays unbound. -/
theorem free_occurrence_has_no_canon (x : Nat) : canon (.ret (.var x)) = none := by
  simp [canon, canonC, canonV, Ren.get?]

/-- A binder never captures an occurrence of a different name. -/
theorem binder_does_not_capture (x y : Nat) (v : V) (h : x ≠ y) (hv : (canonV 0 [] v).isSome) :
    canon (.clet x v (.ret (.var y))) = none := by
  obtain ⟨v', hv'⟩ := Option.isSome_iff_exists.mp hv
  have : (x == y) = false := by simpa using h
  simp [canon, canonC, canonV, Ren.get?, hv', List.find?, this]

/-- Acceptance does not depend on the choice of bound names. -/
theorem canon_acceptance : Statement.canon_acceptance :=
  fun Δ m m' h => by rw [Sc.check_canon Δ m m' h]

/-- Behaviour (exit code or trap, output; also going wrong) does not depend on the choice of bound
names, at every fuel. -/
theorem canon_behaviour : Statement.canon_behaviour :=
  fun m m' fuel out h =>
    have ⟨hf, hb⟩ := Sc.eval_canon m m' fuel h
    Lk.observe hf hb out

/-- Two programs with the same canonical form are accepted together and behave alike. -/
theorem alpha_invariance : Statement.alpha_invariance := by
  intro Δ m₁ m₂ c fuel out h1 h2
  obtain ⟨e1, t1, _⟩ := canon_behaviour m₁ c fuel out h1
  obtain ⟨e2, t2, _⟩ := canon_behaviour m₂ c fuel out h2
  exact ⟨(canon_acceptance Δ m₁ c h1).trans (canon_acceptance Δ m₂ c h2).symm,
    fun code => (e1 code).trans (e2 code).symm, t1.trans t2.symm⟩

/-- The canonical form is canonical. -/
theorem canon_idempotent : Statement.canon_idempotent :=
  fun m c h => Sc.idemC m 0 [] [] c h Sc.IdOn.nil

/-- An accepted program is closed: it has a canonical form. -/
theorem accepted_is_closed : Statement.accepted_is_closed := by
  intro Δ m h
  obtain ⟨m', hm⟩ := Sc.closedC Δ m [] .os 0 [] (checkProgram_ok h) Sc.Dom.nil
  simp [canon, hm]

namespace Demo
/-- non-vacuity: two namings of `let a = () in let b = () in ret a` - one of them shadowing -
have the same canonical form; the capturing renaming has a different one -/
theorem alpha_example :
    canon (.clet 5 .unit (.clet 7 .unit (.ret (.var 5)))) =
      canon (.clet 1 .unit (.clet 0 .unit (.ret (.var 1)))) ∧
    (canon (.clet 5 .unit (.clet 7 .unit (.ret (.var 5))))).isSome := by
  simp [canon, canonC, canonV, Ren.get?, List.find?]
end Demo

end ZV.Props.C07
