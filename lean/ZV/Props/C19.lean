/-
C19 — Compilation to first-order stack-passing form preserves behaviour.

The property itself is checked by running: the first-order program the real compiler produces
(`BackendProgram::lower`) is executed by the reference machine below and must end like the
interpreter's run of the source program (`zv-harness c19`). The lowering passes (`sps/lower.rs`,
`sps_low/convert.rs`) are not mirrored in Lean; what is proved here is about the reference machine
the comparison rests on: it is a function, a run's result does not depend on the step bound, and a
program satisfying the first-order invariants never looks up a code address or a variable that does
not exist (so a `stuck:unknownLabel` / `stuck:unbound` answer on a compiler-produced program is
always a violated invariant, never an artefact of the machine).

Full statements: `ZV/Props/C19Statements.lean`; a statement counts as proved only when a `theorem`
of exactly that proposition appears below.
-/
import ZV.Model.SpsLow
import ZV.Props.C19Statements
import ZV.Proofs.SpsLow

namespace ZV.Props.C19
open ZV.SpsLow

/-- The machine is a function: one state has one successor or one outcome. -/
theorem low_deterministic : Statement.low_deterministic :=
  fun _ _ _ _ h₁ h₂ => h₁.symm.trans h₂

/-- Fuel monotonicity of the run. -/
theorem run_fuel_mono : Statement.run_fuel_mono
  | _, 0, _, _, _, _, _, _, _, h => nomatch h
  | _, _ + 1, 0, _, _, _, _, _, hnm, _ => nomatch hnm
  | tbl, n + 1, m + 1, st, k, o, st', k', hnm, h => by
    rw [runFrom] at h ⊢
    match step tbl st, h with
    | .next st₁, h =>
      exact run_fuel_mono tbl n m st₁ (k + 1) o st' k' (Nat.le_of_succ_le_succ hnm) h
    | .done _ _, h => exact h

/-- Two bounded runs that both ended agree on outcome, final state (output included) and length. -/
theorem run_deterministic : Statement.run_deterministic := by
  intro p host n m o₁ o₂ s₁ s₂ k₁ k₂ h₁ h₂
  have h₁ := run_fuel_mono _ n (max n m) _ _ _ _ _ (Nat.le_max_left ..) h₁
  have h₂ := run_fuel_mono _ m (max n m) _ _ _ _ _ (Nat.le_max_right ..) h₂
  cases h₁.symm.trans h₂
  exact ⟨rfl, rfl, rfl⟩

/-- In a valid program a block's label denotes that block's own body. -/
theorem validated_block_lookup : Statement.validated_block_lookup :=
  fun p hv _ _ hmem => assoc_of_mem_nodup ((validate_iff p).1 hv).1 hmem

/-- Blocks nested in blocks of the table are in the table. -/
theorem nested_blocks_in_table : Statement.nested_blocks_in_table :=
  fun p => blocksC_closed p.root

/-- **No lookup failure** for valid programs, for every host, input and number of steps. -/
theorem validated_no_lookup_failure : Statement.validated_no_lookup_failure := by
  intro p hv n host s st k hrun
  obtain ⟨_, hroot, hs, _⟩ := (validate_iff p).1 hv
  exact runFrom_good p.blocks hs (blocksC_closed p.root) n _ _ s st k (inv_init p hroot host) hrun

namespace Demo
open ZV.Machine (Lit)

/-- `jump (block 0 -> open-continuation • as k in jump k ! arg(()) :: •) ! •`: a block that returns
unit to the initial continuation. -/
def retUnit : Program :=
  { root := .jump (.block 0 (.openKont .bullet (.var 1) (.jump (.var 1) (.arg .triv .bullet)))) .bullet }

example : validate retUnit = true := by decide
example : (retUnit.run 10 {}).2.2 = 5 := by decide
example : (match (retUnit.run 10 {}).1 with | some (.ret .triv) => true | _ => false) = true := by decide

/-- The same block referring to a variable of its context: an implicit capture, invalid, and the
machine gets stuck on the unbound variable. -/
def captures : Program :=
  { root := .letValue (.var 5) .triv
      (.jump (.block 0 (.openKont .bullet (.var 1) (.jump (.var 1) (.arg (.var 5) .bullet)))) .bullet) }

example : validate captures = false := by decide
example : validateWhy captures = "implicit-capture" := by decide
example : (match (captures.run 10 {}).1 with | some (.stuck (.unbound 5)) => true | _ => false) = true := by
  decide

/-- Flat products: `(1, r)` under arity 3 splices the fields of `r`; a pattern with two items on a
three-field product binds its last item to the suffix. -/
example :
    (match matchPat (.vcons [.var 0, .var 1] 3) (.prod [.triv, .triv, .triv]) [] with
     | .ok ρ => ρ.length == 2 | _ => false) = true := by decide
example :
    (match matchPat (.vcons [.var 0, .var 1] 2) (.prod [.triv, .triv, .triv]) [] with
     | .stuck .layout => true | _ => false) = true := by decide

end Demo

end ZV.Props.C19
