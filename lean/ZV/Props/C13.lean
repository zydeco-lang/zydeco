/-
C13 — Formatting never loses source text.
The accounting oracle that decides each formatted file is `ZV.Account.accounts`; these theorems
say what its verdict means. Full statements: `ZV/Props/C13Statements.lean`.
-/
import ZV.Props.C13Statements
import ZV.Proofs.Account

namespace ZV.Props.C13
open ZV.Account

/-- `essential` keeps comments and content tokens and nothing else. -/
theorem essential_keeps (l : List Item) :
    ∀ x ∈ essential l, (∃ t, x = .content t) ∨ (∃ k t, x = .comment k t) := by
  induction l with
  | nil => nofun
  | cons a rest ih =>
    cases a with
    | content t => exact List.forall_mem_cons.2 ⟨.inl ⟨t, rfl⟩, ih⟩
    | comment k t => exact List.forall_mem_cons.2 ⟨.inr ⟨k, t, rfl⟩, ih⟩
    | keyword t | punct t => exact ih

/-- `firstDiff` finds a difference exactly when there is one. -/
theorem firstDiff_none_iff : Statement.firstDiff_none_iff := ZV.Account.firstDiff_none_iff_pf

/-- The oracle accepts a formatter that changes nothing. -/
theorem accounts_refl : Statement.accounts_refl := ZV.Account.accounts_refl_pf

/-- What `ok` means: exactly the input's comments and content tokens, in order, and no comment
moved in front of a content token it followed. -/
theorem accounts_ok_iff : Statement.accounts_ok_iff := ZV.Account.accounts_ok_iff_pf

/-- Punctuation and keywords never decide the verdict. -/
theorem essential_ignores_layout_tokens : Statement.essential_ignores_layout_tokens :=
  ZV.Account.essential_ignores_layout_tokens_pf

/-- A dropped comment is always reported. -/
theorem dropped_comment_detected : Statement.dropped_comment_detected :=
  ZV.Account.dropped_comment_detected_pf

/-- A duplicated comment is always reported. -/
theorem duplicated_comment_detected : Statement.duplicated_comment_detected :=
  ZV.Account.duplicated_comment_detected_pf

/-- Comment capture loses nothing and invents nothing, and its `expect` never fires. -/
theorem capture_partition : Statement.capture_partition := ZV.Capture.capture_partition_pf

/-- A leading comment is attached to the next entity that starts after it. -/
theorem leading_anchor_is_next : Statement.leading_anchor_is_next := ZV.Capture.leading_anchor_is_next_pf

namespace Demo
open Item in
/-- non-vacuity: punctuation and keywords drop out, comments and content stay, in order -/
theorem essential_example :
    essential [content "x", comment 'L' "-- c", punct "(", keyword "fn", content "y", punct ")"]
      = [content "x", comment 'L' "-- c", content "y"] := rfl

open Item in
/-- non-vacuity: offsets count the content tokens in front of each comment -/
theorem offsets_example :
    offsets [content "x", comment 'L' "a", content "y", content "z", comment 'B' "b"] = [1, 3] := rfl
end Demo

end ZV.Props.C13
