-- generated by bin/check on every run
import ZV.Props.C01
#print axioms ZV.Props.C01.step_deterministic
#print axioms ZV.Props.C01.check_sound
#print axioms ZV.Props.C01.accepted_never_stuck
#print axioms ZV.Props.C01.os_program_exits
