-- generated by bin/check on every run
import ZV.Props.C19
#print axioms ZV.Props.C19.low_deterministic
#print axioms ZV.Props.C19.run_fuel_mono
#print axioms ZV.Props.C19.run_deterministic
#print axioms ZV.Props.C19.validated_block_lookup
#print axioms ZV.Props.C19.nested_blocks_in_table
#print axioms ZV.Props.C19.validated_no_lookup_failure
