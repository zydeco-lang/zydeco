-- generated by bin/check on every run
import ZV.Props.C04
#print axioms ZV.Props.C04.uncovered_bounded
#print axioms ZV.Props.C04.comatch_ok_iff
#print axioms ZV.Props.C04.uncovered_sound
#print axioms ZV.Props.C04.accepted_match_covers
#print axioms ZV.Props.C04.witness_sound_needs_inhabitation
#print axioms ZV.Props.C04.witness_sound
#print axioms ZV.Props.C04.covering_match_accepted
#print axioms ZV.Props.C04.uncovered_length
#print axioms ZV.Props.C04.comatch_no_duplicates_iff
#print axioms ZV.Props.C04.Demo.demoSig_wf
#print axioms ZV.Props.C04.Demo.demoSig_closed
#print axioms ZV.Props.C04.Demo.demoSig_inhabited
#print axioms ZV.Props.C04.Demo.listBool_wfIn
#print axioms ZV.Props.C04.Demo.listBool_expected
#print axioms ZV.Props.C04.Demo.mem_F
#print axioms ZV.Props.C04.Demo.mem_T
#print axioms ZV.Props.C04.Demo.mem_Nil
#print axioms ZV.Props.C04.Demo.mem_Cons
#print axioms ZV.Props.C04.Demo.partialArms_typed
#print axioms ZV.Props.C04.Demo.partialArms_report
#print axioms ZV.Props.C04.Demo.partialArms_witnesses
#print axioms ZV.Props.C04.Demo.totalArms_typed
#print axioms ZV.Props.C04.Demo.totalArms_accepted_nohint
#print axioms ZV.Props.C04.Demo.totalArms_accepted
#print axioms ZV.Props.C04.Demo.totalArms_cover
#print axioms ZV.Props.C04.Demo.totalArms_matrix_covers
#print axioms ZV.Props.C04.Demo.simpleArms_typed
#print axioms ZV.Props.C04.Demo.simpleArms_cover_by_hand
#print axioms ZV.Props.C04.Demo.simpleArms_accepted
