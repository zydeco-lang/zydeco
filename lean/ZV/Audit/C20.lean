-- generated by bin/check on every run
import ZV.Props.C20
#print axioms ZV.Props.C20.liftId_homomorphic
#print axioms ZV.Props.C20.identity_forward
#print axioms ZV.Props.C20.identity_backward
#print axioms ZV.Props.C20.identity_never_wrong
#print axioms ZV.Props.C20.left_unit
#print axioms ZV.Props.C20.Demo.identity_example
