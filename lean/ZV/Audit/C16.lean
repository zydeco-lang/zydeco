-- generated by bin/check on every run
import ZV.Props.C16
#print axioms ZV.Props.C16.ins_perm
#print axioms ZV.Props.C16.sort_perm
#print axioms ZV.Props.C16.ins_sorted
#print axioms ZV.Props.C16.sort_sorted
#print axioms ZV.Props.C16.sorted_emit_invariant
#print axioms ZV.Props.C16.emitted_text_invariant
#print axioms ZV.Props.C16.block_order_deterministic
