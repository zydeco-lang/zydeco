-- generated by bin/check on every run
import ZV.Props.C10
#print axioms ZV.Props.C10.literal_actions_total
#print axioms ZV.Props.C10.transSpan2_panics_iff
#print axioms ZV.Props.C10.compact_roundtrip
