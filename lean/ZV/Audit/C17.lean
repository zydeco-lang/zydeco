-- generated by bin/check on every run
import ZV.Props.C17
#print axioms ZV.Props.C17.keyspace_unique
#print axioms ZV.Props.C17.keyspace_exhaustion
#print axioms ZV.Props.C17.id_injective
#print axioms ZV.Props.C17.compact_roundtrip
#print axioms ZV.Props.C17.snapshot_isolation
#print axioms ZV.Props.C17.commit_consistent
#print axioms ZV.Props.C17.registry_shared_consistent
#print axioms ZV.Props.C17.registry_copied_stale
#print axioms ZV.Props.C17.Demo.two_threads_interleave
#print axioms ZV.Props.C17.Demo.two_allocators_allocate
#print axioms ZV.Props.C17.Demo.document_only_commit_can_be_older_than_a_dependency
#print axioms ZV.Props.C17.Demo.edit_of_the_document_supersedes
#print axioms ZV.Props.C17.Demo.shared_registry_recomputes
