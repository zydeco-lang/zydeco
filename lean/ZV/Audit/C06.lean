-- generated by bin/check on every run
import ZV.Props.C06
#print axioms ZV.Props.C06.role_count
#print axioms ZV.Props.C06.arity_matches_abi
#print axioms ZV.Props.C06.source_names_nodup
#print axioms ZV.Props.C06.host_names_nodup
#print axioms ZV.Props.C06.splitAtScalar_spec
#print axioms ZV.Props.C06.str_split_at_contract
#print axioms ZV.Props.C06.str_get_contract
#print axioms ZV.Props.C06.fromCodepoint_spec
#print axioms ZV.Props.C06.parseI64_spec
#print axioms ZV.Props.C06.splitOnce_spec
#print axioms ZV.Props.C06.std_streams_never_close
#print axioms ZV.Props.C06.line_read_contract
#print axioms ZV.Props.C06.utf8_roundtrip
#print axioms ZV.Props.C06.lengths_spec
#print axioms ZV.Props.C06.handle_invariant
#print axioms ZV.Props.C06.closed_stays_closed
#print axioms ZV.Props.C06.trap_only_div_by_zero
#print axioms ZV.Props.C06.all_rows_recognised
#print axioms ZV.Props.C06.hostOp_respects_abi
#print axioms ZV.Props.C06.Demo.split_at_mid
#print axioms ZV.Props.C06.Demo.split_at_negative_or_past_end
#print axioms ZV.Props.C06.Demo.codepoints
#print axioms ZV.Props.C06.Demo.parse_examples
#print axioms ZV.Props.C06.Demo.lengths_example
#print axioms ZV.Props.C06.Demo.invalid_utf8_rejected
#print axioms ZV.Props.C06.Demo.split_once_example
#print axioms ZV.Props.C06.Demo.blank_line_is_a_line
#print axioms ZV.Props.C06.Demo.div_by_zero_traps
#print axioms ZV.Props.C06.Demo.checker_rejects
#print axioms ZV.Props.C06.Demo.handle_script
