-- generated by bin/check on every run
import ZV.Props.C09
#print axioms ZV.Props.C09.dependencies_order
#print axioms ZV.Props.C09.cycle_sound
#print axioms ZV.Props.C09.cycle_complete
#print axioms ZV.Props.C09.provider_order_topo
#print axioms ZV.Props.C09.load_total
#print axioms ZV.Props.C09.load_spec
