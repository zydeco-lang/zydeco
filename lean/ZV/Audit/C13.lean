-- generated by bin/check on every run
import ZV.Props.C13
#print axioms ZV.Props.C13.essential_keeps
#print axioms ZV.Props.C13.firstDiff_none_iff
#print axioms ZV.Props.C13.accounts_refl
#print axioms ZV.Props.C13.accounts_ok_iff
#print axioms ZV.Props.C13.essential_ignores_layout_tokens
#print axioms ZV.Props.C13.dropped_comment_detected
#print axioms ZV.Props.C13.duplicated_comment_detected
#print axioms ZV.Props.C13.capture_partition
#print axioms ZV.Props.C13.leading_anchor_is_next
#print axioms ZV.Props.C13.Demo.essential_example
#print axioms ZV.Props.C13.Demo.offsets_example
