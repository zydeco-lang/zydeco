-- generated by bin/check on every run
import ZV.Props.C12
#print axioms ZV.Props.C12.read_spell
#print axioms ZV.Props.C12.spell_lexes
#print axioms ZV.Props.C12.read_total
#print axioms ZV.Props.C12.respell_idempotent
#print axioms ZV.Props.C12.spell_injective
#print axioms ZV.Props.C12.grouping_derives_iff
#print axioms ZV.Props.C12.grouping_req_le_gram
#print axioms ZV.Props.C12.grouping_elide_derives_table
#print axioms ZV.Props.C12.grouping_elide_derives
#print axioms ZV.Props.C12.grouping_elide_derives_ann
#print axioms ZV.Props.C12.grouping_elide_total
#print axioms ZV.Props.C12.grouping_elide_strip
#print axioms ZV.Props.C12.grouping_elide_complete_at
#print axioms ZV.Props.C12.grouping_accepts_iff_derives
#print axioms ZV.Props.C12.grouping_ctor_argument_grouped
#print axioms ZV.Props.C12.grouping_elide_idempotent
#print axioms ZV.Props.C12.grouping_unsafe_when_widened
#print axioms ZV.Props.C12.Demo.grouping_examples
#print axioms ZV.Props.C12.Demo.read_spell_example
