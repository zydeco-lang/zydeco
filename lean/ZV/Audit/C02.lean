-- generated by bin/check on every run
import ZV.Props.C02
#print axioms ZV.Props.C02.step_deterministic
#print axioms ZV.Props.C02.erase_ignores_annotations
#print axioms ZV.Props.C02.run_mono
#print axioms ZV.Props.C02.product_fields_roundtrip
#print axioms ZV.Props.C02.ref_to_machine
#print axioms ZV.Props.C02.machine_to_ref
#print axioms ZV.Props.C02.ref_never_wrong
#print axioms ZV.Props.C02.match_takes_first
