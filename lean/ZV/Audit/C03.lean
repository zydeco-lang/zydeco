-- generated by bin/check on every run
import ZV.Props.C03
#print axioms ZV.Props.C03.accepted_only_at_os
#print axioms ZV.Props.C03.beq_exact
#print axioms ZV.Props.C03.check_sound
#print axioms ZV.Props.C03.check_complete
#print axioms ZV.Props.C03.type_unique
#print axioms ZV.Props.C03.rejected_has_no_type
#print axioms ZV.Props.C03.program_accepted_iff
#print axioms ZV.Props.C03.lub_iff_alpha
#print axioms ZV.Props.C03.lubEq_iff_alphaEq
#print axioms ZV.Props.C03.lubEq_iff_toDB
#print axioms ZV.Props.C03.lub_refl
#print axioms ZV.Props.C03.lub_not_refl_on_repeated_name
#print axioms ZV.Props.C03.alpha_equiv
#print axioms ZV.Props.C03.alpha_decl_spec
#print axioms ZV.Props.C03.alpha_decl_spec_top
#print axioms ZV.Props.C03.arm_order_irrelevant
#print axioms ZV.Props.C03.positional_comparison_differs
#print axioms ZV.Props.C03.positional_variant_accepts
#print axioms ZV.Props.C03.permuted_binders_differ
#print axioms ZV.Props.C03.bound_vs_free_differ
#print axioms ZV.Props.C03.Demo.wf
#print axioms ZV.Props.C03.Demo.fresh_left
#print axioms ZV.Props.C03.Demo.reordered_equal
#print axioms ZV.Props.C03.Demo.reordered_alpha
#print axioms ZV.Props.C03.Demo.exchanged_differs
#print axioms ZV.Props.C03.Demo.nameless_sorted
#print axioms ZV.Props.C03.Demo.nested_permutation
#print axioms ZV.Props.C03.Demo.arm_order_instance
#print axioms ZV.Props.C03.Demo.repeated_name_not_wf
