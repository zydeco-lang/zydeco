-- generated by bin/check on every run
import ZV.Props.C07
#print axioms ZV.Props.C07.free_occurrence_has_no_canon
#print axioms ZV.Props.C07.binder_does_not_capture
#print axioms ZV.Props.C07.canon_acceptance
#print axioms ZV.Props.C07.canon_behaviour
#print axioms ZV.Props.C07.alpha_invariance
#print axioms ZV.Props.C07.canon_idempotent
#print axioms ZV.Props.C07.accepted_is_closed
#print axioms ZV.Props.C07.Demo.alpha_example
