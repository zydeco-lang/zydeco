-- generated by bin/check on every run
import ZV.Props.C14
#print axioms ZV.Props.C14.check_iff_write
#print axioms ZV.Props.C14.unparseable_untouched
#print axioms ZV.Props.C14.written_is_rendered
#print axioms ZV.Props.C14.format_then_check
#print axioms ZV.Props.C14.exit_status
#print axioms ZV.Props.C14.Demo.check_iff_write_example
