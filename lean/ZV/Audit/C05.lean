-- generated by bin/check on every run
import ZV.Props.C05
#print axioms ZV.Props.C05.val_range
#print axioms ZV.Props.C05.val_injective
#print axioms ZV.Props.C05.wrap_range
#print axioms ZV.Props.C05.wrap_of_range
#print axioms ZV.Props.C05.wrap_congr
#print axioms ZV.Props.C05.add_spec
#print axioms ZV.Props.C05.sub_spec
#print axioms ZV.Props.C05.mul_spec
#print axioms ZV.Props.C05.trap_iff
#print axioms ZV.Props.C05.div_spec
#print axioms ZV.Props.C05.rem_spec
#print axioms ZV.Props.C05.div_rem_law
#print axioms ZV.Props.C05.min_div_neg_one
#print axioms ZV.Props.C05.lt_spec
#print axioms ZV.Props.C05.gt_spec
#print axioms ZV.Props.C05.eq_spec
#print axioms ZV.Props.C05.withType_exact
#print axioms ZV.Props.C05.withType_value
#print axioms ZV.Props.C05.withType_val
#print axioms ZV.Props.C05.default_is_int64
#print axioms ZV.Props.C05.toStr_exact
