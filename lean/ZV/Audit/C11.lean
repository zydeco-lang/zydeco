-- generated by bin/check on every run
import ZV.Props.C11
#print axioms ZV.Props.C11.lexer_complete
#print axioms ZV.Props.C11.lexer_ordered
#print axioms ZV.Props.C11.stray_close_reaches_parser
#print axioms ZV.Props.C11.comment_text_skipped
#print axioms ZV.Props.C11.lexers_agree
