-- generated by bin/check on every run
import ZV.Props.C15
#print axioms ZV.Props.C15.run_fs
#print axioms ZV.Props.C15.run_overlay
#print axioms ZV.Props.C15.effective_spec
#print axioms ZV.Props.C15.fresh_effective
#print axioms ZV.Props.C15.incremental_eq_fresh
#print axioms ZV.Props.C15.lookups_irrelevant
#print axioms ZV.Props.C15.values_spec
#print axioms ZV.Props.C15.memo_sound
#print axioms ZV.Props.C15.Demo.created_after_absent_lookup_is_seen
#print axioms ZV.Props.C15.Demo.overlay_on_absent_file_then_cleared
#print axioms ZV.Props.C15.Demo.disk_change_announced_by_clear
#print axioms ZV.Props.C15.Demo.unannounced_write_differs_from_fresh
#print axioms ZV.Props.C15.Demo.unannounced_write_before_first_lookup_is_seen
#print axioms ZV.Props.C15.Demo.wf_examples
#print axioms ZV.Props.C15.Demo.unrecorded_read_goes_stale
#print axioms ZV.Props.C15.Demo.recorded_read_is_fresh
