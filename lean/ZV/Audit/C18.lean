-- generated by bin/check on every run
import ZV.Props.C18
#print axioms ZV.Props.C18.validate_iff_invariants
#print axioms ZV.Props.C18.scope_iff_free
#print axioms ZV.Props.C18.validated_block_lookup
#print axioms ZV.Props.C18.nested_blocks_in_table
#print axioms ZV.Props.C18.validated_no_lookup_failure
