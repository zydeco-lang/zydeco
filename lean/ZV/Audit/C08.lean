-- generated by bin/check on every run
import ZV.Props.C08
#print axioms ZV.Props.C08.sortByKey_perm
#print axioms ZV.Props.C08.kosaraju_total
#print axioms ZV.Props.C08.kosaraju_correct
#print axioms ZV.Props.C08.drain_deps_first
#print axioms ZV.Props.C08.release_piecemeal_safe
#print axioms ZV.Props.C08.context_order_valid
#print axioms ZV.Props.C08.topo_deterministic
