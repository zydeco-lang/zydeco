/-
Model of zydeco's exhaustiveness checker.

Mirrors `lang/statics/src/validate/coverage.rs` definition for definition:
`MatrixPattern` (`MPat`), `CoveragePattern` (`CPat`), `HeadSpace` (`Head`), `Constructor` (`Con`)
with `arity` / `specialize` / `rebuild`, `MatrixPattern::from_typed` (`fromTyped`),
`CoverageMatrix::{uncovered, uncovered_finite, uncovered_default}` including the `take 9`
truncation and the `expected` head space of the outermost call, `validate_pattern_matrix`
(8-witness truncation) and `validate_comatch`.

One deliberate narrowing: `MatrixPattern::Product(Vec<_>)` is only ever built by `from_typed`,
which right-nests n-ary products into *binary* ones, so the model's product pattern is binary
(`Con.prod` has arity 2). Everything else is as in the code.
Core Lean only (the driver links this file).
-/
namespace ZV.Coverage

/-- `MatrixPattern` -/
inductive MPat where
  | wild
  | ctor (data : Nat) (name : String) (arg : MPat)
  | unit
  | prod (a b : MPat)
  | named (field : String) (p : MPat)
  | pack (p : MPat)
  deriving DecidableEq, Repr, Inhabited

/-- `CoveragePattern` (a witness) -/
inductive CPat where
  | wild
  | ctor (name : String) (arg : CPat)
  | unit
  | prod (a b : CPat)
  | named (field : String) (p : CPat)
  | pack (p : CPat)
  deriving DecidableEq, Repr, Inhabited

/-- `HeadSpace` -/
inductive Head where
  | data (d : Nat)
  | unit
  | prod
  | named (field : String)
  | pack
  deriving DecidableEq, Repr

/-- `Constructor` -/
inductive Con where
  | data (name : String)
  | unit
  | prod
  | named (field : String)
  | pack
  deriving DecidableEq, Repr

/-- The data declarations of the arena: for each `DataId`, its constructor names in declaration
order (argument types are not consulted by the algorithm). -/
abbrev Sig := List (List String)

def Sig.ctors (Δ : Sig) (d : Nat) : List String := (Δ[d]?).getD []

/-- `MatrixPattern::head_space` -/
def MPat.headSpace : MPat → Option Head
  | .wild => none
  | .ctor d _ _ => some (.data d)
  | .unit => some .unit
  | .prod _ _ => some .prod
  | .named f _ => some (.named f)
  | .pack _ => some .pack

/-- `HeadSpace::constructors` (duplicate constructor names are reported once). -/
def Head.constructors (Δ : Sig) : Head → List Con
  | .data d => (Δ.ctors d).eraseDups.map Con.data
  | .unit => [.unit]
  | .prod => [.prod]
  | .named f => [.named f]
  | .pack => [.pack]

/-- `Constructor::arity` -/
def Con.arity : Con → Nat
  | .data _ | .named _ | .pack => 1
  | .unit => 0
  | .prod => 2

/-- `Constructor::specialize` -/
def Con.specialize : Con → MPat → Option (List MPat)
  | c, .wild => some (List.replicate c.arity .wild)
  | .data n, .ctor _ n' arg => if n = n' then some [arg] else none
  | .unit, .unit => some []
  | .prod, .prod a b => some [a, b]
  | .named f, .named f' p => if f = f' then some [p] else none
  | .pack, .pack p => some [p]
  | _, _ => none

/-- `Constructor::rebuild`. The Rust `expect`s cannot fire on rows of the right length; on a
shorter row the model yields a wildcard where Rust would panic (rows always have the right
length: `uncovered_length` in `ZV/Proofs/Coverage.lean`). -/
def Con.rebuild (c : Con) (row : List CPat) : List CPat :=
  let args := row.take c.arity
  let rest := row.drop c.arity
  let head : CPat :=
    match c with
    | .data n => .ctor n (args.headD .wild)
    | .unit => .unit
    | .prod => .prod (args.headD .wild) ((args.drop 1).headD .wild)
    | .named f => .named f (args.headD .wild)
    | .pack => .pack (args.headD .wild)
  head :: rest

abbrev Matrix := List (List MPat)

/-- Number of non-wildcard nodes (the termination measure). -/
def MPat.size : MPat → Nat
  | .wild => 0
  | .ctor _ _ a => a.size + 1
  | .unit => 1
  | .prod a b => a.size + b.size + 1
  | .named _ p => p.size + 1
  | .pack p => p.size + 1

def rowSize (row : List MPat) : Nat := (row.map MPat.size).sum
def matrixSize (m : Matrix) : Nat := (m.map rowSize).sum

/-- `matrix.iter().filter_map(|row| row.first()?.head_space()).next()` -/
def firstHead : Matrix → Option Head
  | [] => none
  | row :: rest =>
    match row with
    | p :: _ =>
      match p.headSpace with
      | some h => some h
      | none => firstHead rest
    | [] => firstHead rest

/-- The `specialized` matrix of `uncovered_finite`. -/
def specializeM (c : Con) : Matrix → Matrix
  | [] => []
  | row :: rest =>
    match row with
    | p :: tl =>
      match c.specialize p with
      | some fields => (fields ++ tl) :: specializeM c rest
      | none => specializeM c rest
    | [] => specializeM c rest

/-- The `defaults` matrix of `uncovered_default`. -/
def defaultM : Matrix → Matrix
  | [] => []
  | row :: rest =>
    match row with
    | .wild :: tl => tl :: defaultM rest
    | _ => defaultM rest

def maxReported : Nat := 8

theorem rowSize_replicate_wild (n : Nat) : rowSize (List.replicate n MPat.wild) = 0 := by
  simp [rowSize, MPat.size]

theorem rowSize_append (a b : List MPat) : rowSize (a ++ b) = rowSize a + rowSize b := by
  simp [rowSize]

theorem rowSize_cons (p : MPat) (tl : List MPat) : rowSize (p :: tl) = p.size + rowSize tl := by
  simp [rowSize]

theorem matrixSize_cons (row : List MPat) (m : Matrix) :
    matrixSize (row :: m) = rowSize row + matrixSize m := by
  simp [matrixSize]

/-- Specialising a pattern loses its head node (a wildcard has none to lose). -/
theorem specialize_size (c : Con) (p : MPat) (fields : List MPat)
    (h : c.specialize p = some fields) : rowSize fields ≤ p.size - 1 := by
  revert h
  fun_cases Con.specialize c p <;> intro h <;> cases h <;>
    simp [rowSize, MPat.size]

theorem pos_size_of_head (p : MPat) (h : p.headSpace ≠ none) : 0 < p.size := by
  cases p <;> simp [MPat.headSpace, MPat.size] at *

/-- Specialising never grows a matrix, and loses a node where some row starts with a
non-wildcard pattern. -/
theorem specializeM_size (c : Con) (m : Matrix) :
    matrixSize (specializeM c m) + (firstHead m).elim 0 (fun _ => 1) ≤ matrixSize m := by
  induction m with
  | nil => simp [specializeM, firstHead, matrixSize]
  | cons row rest ih =>
    unfold specializeM firstHead
    cases row with
    | nil => simpa [matrixSize_cons, rowSize] using ih
    | cons p tl =>
      simp only [matrixSize_cons, rowSize_cons]
      cases hh : p.headSpace with
      | none =>
        cases hs : c.specialize p with
        | none => simp only; omega
        | some fields =>
          have := specialize_size c p fields hs
          simp only [matrixSize_cons, rowSize_append]; omega
      | some hd =>
        have := pos_size_of_head p (by simp [hh])
        cases hs : c.specialize p with
        | none => simp only [Option.elim]; omega
        | some fields =>
          have := specialize_size c p fields hs
          simp only [matrixSize_cons, rowSize_append, Option.elim]; omega

/-- Specialising by *any* constructor strictly shrinks a matrix some row of which starts with a
non-wildcard pattern. This is why `uncovered_finite` terminates when its head space was read off
the matrix. -/
theorem specializeM_size_lt (c : Con) (m : Matrix) (h : firstHead m ≠ none) :
    matrixSize (specializeM c m) < matrixSize m := by
  have := specializeM_size c m
  cases hf : firstHead m with
  | none => exact absurd hf h
  | some _ => rw [hf] at this; exact this

theorem defaultM_size_le (m : Matrix) : matrixSize (defaultM m) ≤ matrixSize m := by
  induction m with
  | nil => simp [defaultM, matrixSize]
  | cons row rest ih =>
    unfold defaultM
    split
    · simp only [matrixSize_cons, rowSize_cons, MPat.size]; omega
    · simp only [matrixSize_cons]; omega

/-- `CoverageMatrix::uncovered` with `expected = None` (every recursive call passes `None`),
`uncovered_finite` and `uncovered_default` inlined. The termination proof is an obligation about
the mirrored algorithm: (non-wildcard nodes, columns) decreases lexicographically. -/
def uncovered (Δ : Sig) (m : Matrix) (columns : Nat) : List (List CPat) :=
  if columns = 0 then
    (if m.isEmpty then [[]] else [])
  else if m.isEmpty then
    [List.replicate columns .wild]
  else
    match h : firstHead m with
    | some space =>
      ((space.constructors Δ).flatMap fun c =>
        (uncovered Δ (specializeM c m) (columns - 1 + c.arity)).map c.rebuild).take (maxReported + 1)
    | none =>
      ((uncovered Δ (defaultM m) (columns - 1)).map fun row => CPat.wild :: row).take (maxReported + 1)
termination_by (matrixSize m, columns)
decreasing_by
  · apply Prod.Lex.left
    exact specializeM_size_lt c m (by simp [h])
  · have := defaultM_size_le m
    rcases Nat.lt_or_ge (matrixSize (defaultM m)) (matrixSize m) with hlt | hge
    · exact Prod.Lex.left _ _ hlt
    · have : matrixSize (defaultM m) = matrixSize m := by omega
      rw [this]
      apply Prod.Lex.right
      omega

/-- `uncovered_finite` called from the outermost `uncovered` when a head space is `expected`
(a `match` whose scrutinee has a data hint, or a package binder). -/
def uncoveredFinite (Δ : Sig) (m : Matrix) (columns : Nat) (space : Head) : List (List CPat) :=
  ((space.constructors Δ).flatMap fun c =>
    (uncovered Δ (specializeM c m) (columns - 1 + c.arity)).map c.rebuild).take (maxReported + 1)

/-- The outermost call `uncovered(matrix, 1, expected)`. -/
def uncoveredTop (Δ : Sig) (m : Matrix) (expected : Option Head) : List (List CPat) :=
  match expected with
  | some space => uncoveredFinite Δ m 1 space
  | none => uncovered Δ m 1

/-- Outcome of `validate_pattern_matrix`: the reported witnesses and the `truncated` flag. -/
structure MatchReport where
  missing : List CPat
  truncated : Bool
  deriving DecidableEq, Repr

/-- `validate_pattern_matrix`: `none` when the match is exhaustive. -/
def validateMatch (Δ : Sig) (arms : List MPat) (expected : Option Head) : Option MatchReport :=
  let all := uncoveredTop Δ (arms.map fun p => [p]) expected
  let truncated := decide (all.length > maxReported)
  let missing := (all.take maxReported).map fun row => row.headD .wild
  if missing.isEmpty then none else some { missing, truncated }

/-! ### Typed patterns and `from_typed` -/

/-- `ValuePattern` of the statics arena, as far as `from_typed` looks at it. An n-ary product
pattern `(p₁, …, pₙ, t)` is `vcons [p₁, …, pₙ] t` (`ConsN(items, tail)`). -/
inductive TPat where
  | hole                     -- `Hole`, `Var` and `Alias` all become wildcards
  | named (field : String) (p : TPat)
  | ctor (data : Nat) (name : String) (arg : TPat)
  | triv
  | vcons (items : List TPat) (tail : TPat)
  | scons (tail : TPat)      -- package pattern: static components erased, dynamic payload kept
  deriving Repr, Inhabited

mutual
  /-- `MatrixPattern::from_typed` -/
  def fromTyped : TPat → MPat
    | .hole => .wild
    | .named f p => .named f (fromTyped p)
    | .ctor d n a => .ctor d n (fromTyped a)
    | .triv => .unit
    | .vcons items tail => fromTypedItems items (fromTyped tail)
    | .scons tail => .pack (fromTyped tail)
  /-- `items.iter().rev().fold(tail, |tail, item| Product(vec![item, tail]))` -/
  def fromTypedItems : List TPat → MPat → MPat
    | [], tail => tail
    | p :: ps, tail => .prod (fromTyped p) (fromTypedItems ps tail)
end

/-! ### `validate_comatch` -/

structure ComatchReport where
  missing : List String
  duplicates : List String
  deriving DecidableEq, Repr

/-- `validate_comatch`: destructors declared (first occurrences, in declaration order) without an
arm; arm names that occur again (each reported once, at its second occurrence). -/
def validateComatch (declared arms : List String) : ComatchReport :=
  let missing := declared.eraseDups.filter fun d => !arms.contains d
  let rec dups (seen reported : List String) : List String → List String
    | [] => []
    | a :: rest =>
      if seen.contains a then
        (if reported.contains a then dups seen reported rest else a :: dups seen (a :: reported) rest)
      else dups (a :: seen) reported rest
  { missing, duplicates := dups [] [] arms }

/-! ### Display (`impl Display for CoveragePattern`) -/

def CPat.render : CPat → String
  | .wild => "_"
  | .ctor n .unit => s!"+{n}()"
  | .ctor n (.prod a b) => s!"+{n}({a.render}, {b.render})"
  | .ctor n a => s!"+{n}({a.render})"
  | .unit => "()"
  | .prod a b => s!"({a.render}, {b.render})"
  | .named f p => s!"{f} = {p.render}"
  | .pack p => s!"(_, {p.render})"

end ZV.Coverage
