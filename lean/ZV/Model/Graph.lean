/-
Model of zydeco's dependency analysis.

Mirrors
* `lang/utils/src/graph.rs`: `DepGraph::{add, query, order, reverse}`, `SrcGraph::{add, query, roots}`,
  `Kosaraju::{run, dfs_forward, dfs_backward}`, `SccGraph::{new, top, release}`;
* `lang/surface/src/scoped/arena.rs`: `BindingContext::{from_bindings, ready, topological_order}`.

**Hash-map iteration order is an explicit parameter.** Every place where the Rust code iterates a
`HashMap` / `HashSet` goes through a scheduler `σ : List Nat → List Nat` that may return the
collection's elements in any order (the theorems assume only `σ xs` is a permutation of `xs`).
Sets are duplicate-free lists, maps are association lists; ids are natural numbers.

The Rust `unreachable!()` / `unwrap()` / `expect(..)` / index sites of the mirrored slice are
explicit `Except.error` outcomes, never totalised defaults. Recursive DFS takes fuel; running
out of fuel is its own error (`fuel`), proved impossible in `ZV/Proofs/Kosaraju.lean`.
Core Lean only (the driver links this file).
-/
namespace ZV.Graph

/-- The iteration order of a hash collection. -/
abbrev Sched := List Nat → List Nat

/-- A set of ids. -/
abbrev IdSet := List Nat

def IdSet.insert (s : IdSet) (x : Nat) : IdSet := if s.contains x then s else s ++ [x]
def IdSet.union (s t : IdSet) : IdSet := t.foldl IdSet.insert s
def IdSet.remove (s : IdSet) (x : Nat) : IdSet := s.filter (· != x)

/-- `HashMap<Id, HashSet<Id>>` -/
abbrev AMap := List (Nat × IdSet)

namespace AMap

def get? (m : AMap) (k : Nat) : Option IdSet := (m.find? (·.1 == k)).map (·.2)
def query (m : AMap) (k : Nat) : IdSet := (m.get? k).getD []
def keys (m : AMap) : List Nat := m.map (·.1)
def hasKey (m : AMap) (k : Nat) : Bool := m.any (·.1 == k)
def remove (m : AMap) (k : Nat) : AMap := m.filter (·.1 != k)

/-- `map.entry(id).or_insert_with(HashSet::new).extend(deps)` (`DepGraph::add`, `SrcGraph::add`). -/
def add (m : AMap) (k : Nat) (vs : List Nat) : AMap :=
  if m.hasKey k then m.map fun (k', s) => if k' == k then (k', IdSet.union s vs) else (k', s)
  else m ++ [(k, IdSet.union [] vs)]

/-- `map.get_mut(k).unwrap().remove(x)`; `none` when the key is absent (the `unwrap` panics). -/
def removeFrom? (m : AMap) (k x : Nat) : Option AMap :=
  if m.hasKey k then some (m.map fun (k', s) => if k' == k then (k', IdSet.remove s x) else (k', s))
  else none

end AMap

/-- All nodes of a dependency graph: keys and dependency targets. -/
def allNodes (deps : AMap) : IdSet :=
  deps.foldl (fun acc (k, ds) => IdSet.union (IdSet.insert acc k) ds) []

/-- `DepGraph::reverse` -/
def reverse (σ : Sched) (deps : AMap) : AMap :=
  (σ deps.keys).foldl
    (fun r id => (σ (deps.query id)).foldl (fun r dep => r.add dep [id]) (r.add id []))
    []

/-- `SrcGraph::roots`: the keys that are nobody's source. -/
def srcRoots (σ : Sched) (srcs : AMap) : IdSet :=
  (σ srcs.keys).foldl (fun roots k => (σ (srcs.query k)).foldl IdSet.remove roots) srcs.keys

/-! ### Kosaraju -/

structure Fwd where
  /-- the finish stack; head = most recently pushed -/
  stack : List Nat := []
  visited : IdSet := []
  outOfFuel : Bool := false

/-- `Kosaraju::dfs_forward` -/
def dfsForward (σ : Sched) (deps : AMap) : Nat → Fwd → Nat → Fwd
  | 0, st, _ => { st with outOfFuel := true }
  | fuel + 1, st, id =>
    let st := { st with visited := IdSet.insert st.visited id }
    let st := (σ (deps.query id)).foldl
      (fun st next => if st.visited.contains next then st else dfsForward σ deps fuel st next) st
    { st with stack := id :: st.stack }

structure Bwd where
  belongs : List (Nat × Nat) := []
  outOfFuel : Bool := false

def Bwd.has (b : Bwd) (id : Nat) : Bool := b.belongs.any (·.1 == id)

/-- `Kosaraju::dfs_backward` -/
def dfsBackward (σ : Sched) (rdeps : AMap) (idx : Nat) : Nat → Bwd → Nat → Bwd
  | 0, st, _ => { st with outOfFuel := true }
  | fuel + 1, st, id =>
    let st := { st with belongs := st.belongs ++ [(id, idx)] }
    (σ (rdeps.query id)).foldl
      (fun st next => if st.has next then st else dfsBackward σ rdeps idx fuel st next) st

/-- The labelling computed by `Kosaraju::run` (before `SccGraph::new`): node ↦ component index. -/
def kosarajuBelongs (σ : Sched) (deps : AMap) : Except String (List (Nat × Nat)) :=
  let fuel := (allNodes deps).length + 1
  let rdeps := reverse σ deps
  let fwd := (σ deps.keys).foldl
    (fun st id => if st.visited.contains id then st else dfsForward σ deps fuel st id) ({} : Fwd)
  if fwd.outOfFuel then .error "fuel" else
  let (bwd, _) := fwd.stack.foldl
    (fun (st : Bwd × Nat) id =>
      if st.1.has id then st else (dfsBackward σ rdeps st.2 fuel st.1 id, st.2 + 1))
    (({} : Bwd), 0)
  if bwd.outOfFuel then .error "fuel" else .ok bwd.belongs

/-! ### SccGraph -/

structure Scc where
  strongs : AMap                 -- component index ↦ members
  belongs : List (Nat × Nat)     -- node ↦ component index
  srcs : AMap                    -- component ↦ components that depend on it
  deps : AMap                    -- component ↦ components it depends on
  roots : IdSet
  deriving Repr

def lookup (b : List (Nat × Nat)) (id : Nat) : Option Nat := (b.find? (·.1 == id)).map (·.2)

/-- `SccGraph::new`. `belongs[&d]` panics when a dependency has no label. -/
def Scc.new (σ : Sched) (idDeps : AMap) (belongs : List (Nat × Nat)) : Except String Scc := do
  let strongs : AMap := (σ (belongs.map (·.1))).foldl
    (fun s id => match lookup belongs id with
      | some low => s.add low [id]
      | none => s) []
  let init : AMap × AMap := (σ strongs.keys).foldl (fun (s, d) c => (s.add c [], d.add c [])) ([], [])
  let (srcs, deps) ← (σ strongs.keys).foldlM (fun (acc : AMap × AMap) k =>
    (σ (strongs.query k)).foldlM (fun (acc : AMap × AMap) id =>
      (σ (idDeps.query id)).foldlM (fun (acc : AMap × AMap) d =>
        match lookup belongs d with
        | none => Except.error "belongs[&d]: dependency without a component"
        | some repr =>
          if repr != k then pure (acc.1.add repr [k], acc.2.add k [repr]) else pure acc) acc) acc) init
  pure { strongs, belongs, srcs, deps, roots := srcRoots σ srcs }

/-- `SccGraph::top`: the member sets of the current roots. -/
def Scc.top (σ : Sched) (g : Scc) : List IdSet :=
  (σ g.roots).filterMap fun root => (g.strongs.get? root).map σ

/-- `SccGraph::release` for one id. -/
def Scc.releaseOne (σ : Sched) (g : Scc) (id : Nat) : Except String Scc := do
  let some sccId := lookup g.belongs id
    | .error "release: id does not belong to a component (unreachable!)"
  let belongs := g.belongs.filter (·.1 != id)
  let some scc := g.strongs.get? sccId
    | .error "release: component has no member set (unreachable!)"
  let scc := IdSet.remove scc id
  if !scc.isEmpty then
    pure { g with belongs, strongs := g.strongs.map fun (k, s) => if k == sccId then (k, scc) else (k, s) }
  else
    let strongs := g.strongs.remove sccId
    let roots := IdSet.remove g.roots sccId
    match g.srcs.get? sccId with
    | none => pure { g with belongs, strongs, roots }        -- `else { continue }`
    | some next =>
      let srcs := g.srcs.remove sccId
      let deps ← (σ next).foldlM (fun (d : AMap) n =>
        match d.removeFrom? n sccId with
        | some d => pure d
        | none => Except.error "release: deps.map.get_mut(n).unwrap()") g.deps
      let freed := next.filter fun x => (deps.query x).isEmpty
      pure { strongs, belongs, srcs, deps, roots := IdSet.union roots freed }

/-- `SccGraph::release`: the ids are collected into a hash set and released in its order. -/
def Scc.release (σ : Sched) (g : Scc) (ids : List Nat) : Except String Scc :=
  (σ ids.eraseDups).foldlM (Scc.releaseOne σ) g

/-- `Kosaraju::new(&deps).run()` -/
def kosaraju (σ : Sched) (deps : AMap) : Except String Scc := do
  let belongs ← kosarajuBelongs σ deps
  Scc.new σ deps belongs

/-! ### BindingContext -/

/-- One node of the condensation DAG: its bindings in source order, and whether it is recursive. -/
structure Node where
  members : List Nat
  recursive : Bool
  deriving Repr, DecidableEq

/-- Insertion sort by key (`sort_by_key`, stable). -/
def sortByKey (key : Nat → Nat) : List Nat → List Nat
  | [] => []
  | x :: xs =>
    let rec ins (x : Nat) : List Nat → List Nat
      | [] => [x]
      | y :: ys => if key x < key y then x :: y :: ys else y :: ins x ys
    ins x (sortByKey key xs)

/-- The `std::iter::from_fn` loop of `from_bindings`: groups in the order they are produced. -/
def drainGroups (σ : Sched) : Nat → Scc → List IdSet → List IdSet → Except String (List IdSet)
  | 0, _, _, _ => .error "fuel"
  | fuel + 1, comps, ready, out =>
    match ready.reverse with
    | g :: rest => drainGroups σ fuel comps rest.reverse (out ++ [g])        -- `ready.pop()`
    | [] =>
      let ready := comps.top σ
      if ready.isEmpty then .ok out
      else do
        let comps ← comps.release σ (ready.flatMap id)
        match ready.reverse with
        | g :: rest => drainGroups σ fuel comps rest.reverse (out ++ [g])
        | [] => .ok out

structure Ctx where
  nodes : List Node                -- index = ContextNodeId (allocation order)
  graph : Scc
  deriving Repr

/-- `BindingContext::from_bindings`. `bindings` lists `(binding id, source_order)`. -/
def fromBindings (σ : Sched) (bindings : List (Nat × Nat)) (deps : AMap) : Except String Ctx := do
  let components ← kosaraju σ deps
  let groups ← drainGroups σ (2 * (allNodes deps).length + 2) components [] []
  let order (id : Nat) : Nat := (lookup bindings id).getD 0
  let (nodes, nodeFor, remaining) ← groups.foldlM
    (fun (acc : List Node × List (Nat × Nat) × List (Nat × Nat)) group => do
      let (nodes, nodeFor, remaining) := acc
      let ids := sortByKey order group
      -- `bindings[id]` inside `sort_by_key` and `bindings.remove(id).expect(..)`
      if ids.any fun id => !(remaining.any (·.1 == id)) then
        throw "each binding belongs to exactly one context component"
      let recursive := ids.length > 1 ||
        (match ids.head? with
         | some id => (deps.query id).contains id
         | none => false)
      if ids.isEmpty then throw "an SCC cannot be empty"
      let nodeId := nodes.length
      pure (nodes ++ [{ members := ids, recursive }],
            nodeFor ++ ids.map (fun b => (b, nodeId)),
            remaining.filter fun (b, _) => !ids.contains b))
    ([], [], bindings)
  if !remaining.isEmpty then throw "all context bindings must occur in the dependency graph"
  let nodeDeps0 : AMap := (List.range nodes.length).foldl (fun m n => m.add n []) []
  let nodeDeps ← (σ deps.keys).foldlM (fun (m : AMap) binding => do
      let some node := lookup nodeFor binding | throw "node_for_binding[&binding]"
      let ds ← (σ (deps.query binding)).mapM fun d =>
        match lookup nodeFor d with
        | some n => pure n
        | none => throw "node_for_binding[&dependency]"
      pure (m.add node (ds.filter (· != node)))) nodeDeps0
  let graph ← kosaraju σ nodeDeps
  pure { nodes, graph }

def Ctx.nodeOrder (bindings : List (Nat × Nat)) (c : Ctx) (n : Nat) : Nat :=
  match c.nodes[n]? with
  | some node => (node.members.map fun b => (lookup bindings b).getD 0).foldl min (node.members.head?.map (fun b => (lookup bindings b).getD 0) |>.getD 0)
  | none => 0

/-- `BindingContext::ready` -/
def Ctx.ready (σ : Sched) (bindings : List (Nat × Nat)) (c : Ctx) (t : Scc) : Except String (List Nat) := do
  let tops ← (t.top σ).mapM fun group =>
    match group with
    | [n] => pure n
    | [] => throw "a context DAG node cannot be empty"
    | _ => throw "the context condensation graph must be acyclic"
  pure (sortByKey (c.nodeOrder bindings) tops)

/-- `BindingContext::topological_order` -/
def Ctx.topoLoop (σ : Sched) (bindings : List (Nat × Nat)) (c : Ctx) :
    Nat → Scc → List Nat → Except String (List Nat)
  | 0, _, _ => .error "fuel"
  | fuel + 1, t, out => do
    let ready ← c.ready σ bindings t
    if ready.isEmpty then pure out
    else
      let t ← t.release σ ready
      c.topoLoop σ bindings fuel t (out ++ ready)

def Ctx.topologicalOrder (σ : Sched) (bindings : List (Nat × Nat)) (c : Ctx) : Except String (List Nat) :=
  c.topoLoop σ bindings (c.nodes.length + 1) c.graph []

/-- The observable result: the nodes in dependency order, each with its members in source order. -/
def contextOrder (σ : Sched) (bindings : List (Nat × Nat)) (deps : AMap) : Except String (List Node) := do
  let c ← fromBindings σ bindings deps
  let order ← c.topologicalOrder σ bindings
  pure (order.filterMap fun n => c.nodes[n]?)

end ZV.Graph
