-- Root of the `ZV` library: `lake build` checks every property theorem and prints what each rests on.
import ZV.Audit.C01
import ZV.Audit.C02
import ZV.Audit.C03
import ZV.Audit.C04
import ZV.Audit.C05
import ZV.Audit.C06
import ZV.Audit.C07
import ZV.Audit.C08
import ZV.Audit.C09
import ZV.Audit.C10
import ZV.Audit.C11
import ZV.Audit.C12
import ZV.Audit.C13
import ZV.Audit.C14
import ZV.Audit.C15
import ZV.Audit.C16
import ZV.Audit.C17
import ZV.Audit.C18
import ZV.Audit.C19
import ZV.Audit.C20
